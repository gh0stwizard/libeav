import Eav.Model
import Eav.Lemmas.Str
import Eav.Lemmas.Split
import Eav.Lemmas.Utf8
import Eav.Lemmas.Scan
import Eav.Lemmas.LocalGrammar
import Eav.Lemmas.LocalScan
import Eav.Lemmas.Local6531C
import Eav.Lemmas.Domain
import Eav.Lemmas.Ip4
import Eav.Lemmas.Ip6
import Eav.Lemmas.IpSpec
import Eav.Lemmas.Ip6Upper
import Eav.Lemmas.Ip6Lower
import Eav.Lemmas.Email
import Eav.Lemmas.Api
import Eav.Props.GenTie
import Eav.Props.C01
import Eav.Props.C02
import Eav.Props.C03
import Eav.Props.C04
import Eav.Props.C05
import Eav.Props.C06
import Eav.Props.C06Cost
import Eav.Props.C06CostEmail
import Eav.Props.C07
import Eav.Props.C07Api
import Eav.Props.C08
import Eav.Props.C09
import Eav.Props.C09Api
import Eav.Props.C09Email
import Eav.Props.C10
import Eav.Props.C11
import Eav.Props.C12
import Eav.Props.C13
import Eav.Props.C14
import Eav.Props.C15
import Eav.Props.C16
import Eav.Props.C17
import Eav.Props.C18
import Eav.Props.C19
import Eav.Props.C20
import Eav.Props.C20Main
import Eav.Props.C20Spec
