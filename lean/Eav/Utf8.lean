import Eav.Basic
/-!
# `src/utf8_decode.c` — the "very strict" UTF-8 decoder

`decodeNext` is `utf8_decode_next` on the remaining input `[the_index, the_length)`: the
character and the input after it, `fin` (UTF8_END) or `err` (UTF8_ERROR; the callers stop at
the first error, so the cursor after an error is not modelled).
The bit tests of the C code are written arithmetically
(`(c & 0xE0) == 0xC0` is `192 ≤ c < 224`, `c & 0x1F` is `c % 32`, `(a << 6) | b` is `64 a + b`
for `b < 64`, a missing byte — `get` returning UTF8_END — is not a continuation byte);
the correspondence check runs every 1–3 byte sequence and a cover of the 4-byte ones
through both.
-/
namespace Eav

inductive Dec
  | fin                                  -- UTF8_END
  | err                                  -- UTF8_ERROR
  | ch (cp : Nat) (rest : List Nat)      -- a character and the input after it
  deriving Repr, DecidableEq

/-- `(c & 0xC0) == 0x80` -/
def isCont (c : Nat) : Bool := decide (128 ≤ c) && decide (c < 192)

def decodeNext : List Nat → Dec
  | [] => .fin
  | c :: cs =>
    if c < 128 then .ch c cs
    else if c < 192 then .err
    else if c < 224 then
      match cs with
      | c1 :: r =>
        if isCont c1 then
          let v := (c % 32) * 64 + c1 % 64
          if v ≥ 128 then .ch v r else .err
        else .err
      | [] => .err
    else if c < 240 then
      match cs with
      | c1 :: c2 :: r =>
        if isCont c1 && isCont c2 then
          let v := (c % 16) * 4096 + (c1 % 64) * 64 + c2 % 64
          if v ≥ 2048 ∧ (v < 55296 ∨ v > 57343) then .ch v r else .err
        else .err
      | _ => .err
    else if c < 248 then
      match cs with
      | c1 :: c2 :: c3 :: r =>
        if isCont c1 && isCont c2 && isCont c3 then
          let v := (c % 8) * 262144 + (c1 % 64) * 4096 + (c2 % 64) * 64 + c3 % 64
          if v ≥ 65536 ∧ v ≤ 1114111 then .ch v r else .err
        else .err
      | _ => .err
    else .err

theorem decodeNext_length {l : List Nat} {cp : Nat} {r : List Nat}
    (h : decodeNext l = .ch cp r) : r.length < l.length := by
  revert h
  fun_cases decodeNext l <;> intro h <;> first
    | (injection h with _ h; subst h; simp only [List.length_cons]; omega)
    | cases h

end Eav
