import Eav.Lemmas.Ip4
import Eav.Lemmas.Ip6
import Eav.Lemmas.IpSpec
/-!
# `is_ipv6` accepts only RFC 4291 textual addresses (upper bound)
-/
namespace Eav
open Eav.Spec

theorem isHex_alnum {c : Nat} (h : isHex c = true) : isAlnum c = true := by
  simp only [isHex, isAlnum, isAlpha, isUpper, isLower, isDigit, Bool.or_eq_true, Bool.and_eq_true, decide_eq_true_eq] at h ⊢
  omega

/-! ### what acceptance at the end, behind a `.`, a `:`, a `::` and a run of hexadecimal digits implies -/

/-- every test of the loop rejects with `.ok false`: acceptance behind a test says that it failed -/
theorem of_ite_reject {c : Prop} [Decidable c] {x : Except Fault Bool} (h : (if c then .ok false else x) = .ok true) :
    ¬ c ∧ x = .ok true := by
  by_cases hc : c
  · rw [if_pos hc] at h; cases h
  · rw [if_neg hc] at h; exact ⟨hc, h⟩

theorem ipv6Loop_nil_true {after : List Nat} {f nf : Nat} {run : List Nat} {sk : Nat}
    (h : ipv6Loop [] after f nf run sk = .ok true) : 2 ≤ f ∧ (run = [] → nf = f - 1) ∧ (nf = 0 → f = 7) := by
  rw [ipv6Loop_nil] at h
  simpa using (ipv6Fin_iff f nf run.length).mp (Except.ok.inj h)

theorem ipv6Loop_dot_true {run cs : List Nat} {f nf : Nat} (hn : NulFree (run ++ 46 :: cs))
    (h : ipv6Loop (46 :: cs) lit f nf run 0 = .ok true) :
    2 ≤ f ∧ f ≤ 6 ∧ (nf = 0 → f = 6) ∧ v4 (run ++ 46 :: cs) = true := by
  rw [ipv6Loop_dot] at h
  obtain ⟨h1, h⟩ := of_ite_reject h
  obtain ⟨h2, h⟩ := of_ite_reject h
  rw [isIpv4_literal _ hn, Except.ok.injEq, Bool.and_eq_true] at h
  exact ⟨by omega, by omega, by omega, h.1⟩

theorem ipv6Loop_colon_true {cs : List Nat} {f nf : Nat} {run : List Nat} (hc : cs.headD 93 ≠ 58)
    (h : ipv6Loop (58 :: cs) lit f nf run 0 = .ok true) :
    (f = 0 → run = [] → isAlnum (cs.headD 93) = false) ∧ f + 1 ≤ 7 ∧ ipv6Loop cs lit (f + 1) nf [] 0 = .ok true := by
  rw [ipv6Loop_colon] at h
  obtain ⟨h1, h⟩ := of_ite_reject h
  obtain ⟨h2, h⟩ := of_ite_reject h
  rw [if_neg hc] at h
  exact ⟨fun hf hr => by simpa [hf, hr] using h1, by omega, h⟩

theorem ipv6Loop_dc_true {cs : List Nat} {f nf : Nat} {run : List Nat} (hc : cs.headD 93 = 58)
    (h : ipv6Loop (58 :: cs) lit f nf run 0 = .ok true) :
    ∃ r, cs = 58 :: r ∧ f + 2 ≤ 7 ∧ nf = 0 ∧ r.headD 93 ≠ 58 ∧ ipv6Loop r lit (f + 2) (f + 1) [] 0 = .ok true := by
  cases cs with
  | nil => cases hc
  | cons y r =>
    obtain rfl : y = 58 := hc
    rw [ipv6Loop_dc] at h
    obtain ⟨h1, h⟩ := of_ite_reject h
    obtain ⟨h2, h⟩ := of_ite_reject h
    obtain ⟨h3, h⟩ := of_ite_reject h
    exact ⟨r, rfl, by omega, by omega, h3, h⟩

theorem ipv6Loop_run_true {g rest : List Nat} {f nf : Nat} {run : List Nat} (hg : g.all isHex = true) (hne : g ≠ [])
    (hr : isHex (rest.headD 93) = false) (h : ipv6Loop (g ++ rest) lit f nf run 0 = .ok true) :
    h16 g = true ∧ ipv6Loop rest lit f nf g 0 = .ok true := by
  rw [ipv6Loop_run g rest f nf run hg hne hr] at h
  obtain ⟨h4, h⟩ := of_ite_reject h
  exact ⟨h16_iff.mpr ⟨hg, hne, h4⟩, h⟩

/-- where a group is due, nothing but a hexadecimal digit or the end is accepted (a dot only behind a group) -/
theorem ipv6_stray_false {x : Nat} {xs : List Nat} {f nf : Nat} (hn : NulFree (x :: xs)) (hx : isHex x = false)
    (h58 : x ≠ 58) : ipv6Loop (x :: xs) lit f nf [] 0 ≠ .ok true := by
  intro h
  by_cases h46 : x = 46
  · subst h46
    have := (ipv6Loop_dot_true (run := []) hn h).2.2.2
    rw [List.nil_append, v4_dot_false] at this; cases this
  · rw [ipv6Loop_other x xs f nf [] (hn x (by simp)) h46 h58 hx] at h; cases h

/-- **the invariant**: `f` colons have been read, the `::` among them iff `0 < nf`, and a group is due.  What is then accepted
is what may stand behind `::` (nothing, or a tail of groups) if it fits into the fields left, and fills them when there was no
`::`; or, before any `::`, groups, `::` and such a rest. -/
theorem ipv6Loop_upper : ∀ (n : Nat) (cs : List Nat), cs.length < n → NulFree cs → cs.headD 93 ≠ 58 →
    ∀ (f nf : Nat), f ≤ 7 → (nf = 0 ∨ nf < f) → ipv6Loop cs lit f nf [] 0 = .ok true →
    (∃ k, (cs = [] ∧ k = 0 ∨ IsTail v4 k cs) ∧ f + k ≤ 8 ∧ (nf = 0 → f + k = 8)) ∨
    (nf = 0 ∧ ∃ l r nl nr, cs = l ++ 58 :: 58 :: r ∧ IsGroups nl l ∧ (r = [] ∧ nr = 0 ∨ IsTail v4 nr r) ∧ f + nl + nr ≤ 7) := by
  intro n
  induction n with
  | zero => intro cs hl; omega
  | succ n ih =>
    intro cs hl hn hh f nf hf hnf h
    obtain ⟨g, rest, rfl, hg, hr⟩ := hex_split cs
    by_cases hge : g = []
    · -- no hexadecimal digit here
      subst hge
      cases rest with
      | nil =>
        obtain ⟨_, h3, _⟩ := ipv6Loop_nil_true h
        have := h3 rfl
        exact .inl ⟨0, .inl ⟨rfl, rfl⟩, by omega, by omega⟩
      | cons x xs => exact absurd h (ipv6_stray_false hn hr hh)
    · obtain ⟨hh16, h⟩ := ipv6Loop_run_true hg hge hr h
      cases rest with
      | nil =>
        -- the address ends with this group
        obtain ⟨_, _, h7⟩ := ipv6Loop_nil_true h
        rw [List.append_nil]
        exact .inl ⟨1, .inr (.one hh16), by omega, fun h0 => by rw [h7 h0]⟩
      | cons x xs =>
        have hl' : xs.length < n := by simp at hl; omega
        have hnx : NulFree xs := fun d hd => hn d (by simp [hd])
        by_cases h46 : x = 46
        · -- dotted-quad tail
          subst h46
          obtain ⟨_, _, h6, hv4⟩ := ipv6Loop_dot_true hn h
          exact .inl ⟨2, .inr (.quad hv4), by omega, fun h0 => by rw [h6 h0]⟩
        · by_cases h58 : x = 58
          · subst h58
            by_cases hdc : xs.headD 93 = 58
            · -- `::`
              obtain ⟨r, rfl, hf7, rfl, hdc, h1⟩ := ipv6Loop_dc_true hdc h
              rcases ih r (by simp at hl'; omega) (fun d hd => hnx d (by simp [hd])) hdc (f + 2) (f + 1) (by omega)
                (.inr (by omega)) h1 with ⟨k, hrr, hle, _⟩ | ⟨h0, _⟩
              · exact .inr ⟨rfl, g, r, 1, k, rfl, .one hh16, hrr, by omega⟩
              · omega
            · -- a single colon: this group in front of what follows
              obtain ⟨_, hf7, h1⟩ := ipv6Loop_colon_true hdc h
              rcases ih xs hl' hnx hdc (f + 1) nf (by omega) (by omega) h1 with
                ⟨k, ⟨rfl, _⟩ | ht, hle, h8⟩ | ⟨h0, l, r, nl, nr, rfl, hgl, hrr, hle⟩
              · have := (ipv6Loop_nil_true h1).2.1 rfl
                omega
              · exact .inl ⟨k + 1, .inr (.cons hh16 ht), by omega, fun h0 => by have := h8 h0; omega⟩
              · exact .inr ⟨h0, g ++ 58 :: l, r, nl + 1, nr, by simp, .cons hh16 hgl, hrr, by omega⟩
          · rw [ipv6Loop_other x xs f nf g (hn x (by simp)) h46 h58 hr] at h; cases h

/-- **upper bound**: what `is_ipv6` accepts inside a literal is an RFC 4291 textual address -/
theorem isIpv6_upper (s : List Nat) (hn : NulFree s) (h : isIpv6 s lit = .ok true) : IsV6_4291 s := by
  unfold isIpv6 at h
  unfold IsV6_4291 IsV6
  cases s with
  | nil => rw [ipv6Loop_nil] at h; cases h
  | cons x r' =>
    have hnr' : NulFree r' := fun d hd => hn d (by simp [hd])
    by_cases hc : x = 58
    · subst hc
      by_cases hdc : r'.headD 93 = 58
      · -- leading `::`
        obtain ⟨r, rfl, _, _, hdc, h1⟩ := ipv6Loop_dc_true hdc h
        rcases ipv6Loop_upper _ r (Nat.lt_succ_self _) (fun d hd => hnr' d (by simp [hd])) hdc 2 1 (by omega) (.inr (by omega)) h1
          with ⟨k, hrr, hle, _⟩ | ⟨h0, _⟩
        · exact .inr ⟨[], r, 0, k, rfl, .inl ⟨rfl, rfl⟩, hrr, by omega⟩
        · cases h0
      · -- a single leading colon is followed by no letter or digit, so by no group
        exfalso
        obtain ⟨ha, _, h1⟩ := ipv6Loop_colon_true hdc h
        cases r' with
        | nil => have := (ipv6Loop_nil_true h1).1; omega
        | cons y ys =>
          have hy : isHex y = false := by
            cases hy : isHex y with
            | false => rfl
            | true => rw [List.headD_cons, isHex_alnum hy] at ha; exact absurd (ha rfl rfl) nofun
          exact ipv6_stray_false hnr' hy hdc h1
    · rcases ipv6Loop_upper _ (x :: r') (Nat.lt_succ_self _) hn hc 0 0 (by omega) (.inl rfl) h
        with ⟨k, hk, _, h8⟩ | ⟨_, l, r, nl, nr, e, hgl, hrr, hle⟩
      · obtain rfl : k = 8 := by have := h8 rfl; omega
        exact .inl (hk.resolve_left (fun h => nomatch h.2))
      · exact .inr ⟨l, r, nl, nr, e, .inr hgl, hrr, by omega⟩

end Eav
