import Eav.Email
import Eav.Lemmas.Str
import Eav.Lemmas.Split
import Eav.Lemmas.Scan
import Eav.Lemmas.Domain
/-!
# The email layer, function by function: what each returns, on which input

`checkTld`, `checkIp`, `isUtf8Domain`, `hostPart`, `literalPart`, `isEmail`.
For each: its value on each form of input (equations) and what a given value says about the input (inversion).
-/
namespace Eav

section isEmail
variable (b : Build) (conv : List Nat → Conv) (m : Mode) (tld : Bool)

theorem isEmail_nil : isEmail b conv m [] tld = .ok { rc := -(E.EMAIL_EMPTY : Int) } := rfl

theorem isEmail_noAt {s : List Nat} (hs : s ≠ []) (h : 64 ∉ s) :
    isEmail b conv m s tld = .ok { rc := -(E.DOMAIN_EMPTY : Int) } := by
  simp [isEmail, hs, (splitLast_eq_none_iff 64 s).2 h]

/-- the address split at its last `@`: empty domain, local part too long, local part invalid (the scanner's own code),
and only then the domain branch -/
theorem isEmail_at (L : List Nat) {D : List Nat} (h : 64 ∉ D) :
    isEmail b conv m (L ++ 64 :: D) tld =
      if D = [] then .ok { rc := -(E.DOMAIN_EMPTY : Int) }
      else if 64 < L.length then .ok { rc := -(E.LPART_TOO_LONG : Int) }
      else if localOf b m L ≠ 0 then .ok { rc := localOf b m L }
      else if D.head? ≠ some 91 then hostPart b conv m L D tld else literalPart b L D := by
  simp [isEmail, splitLast_append 64 D h]

/-- **inversion**: the five ways `is_*_email` produces a record -/
theorem isEmail_ok_iff {s : List Nat} {r : Result} :
    isEmail b conv m s tld = .ok r ↔
      (s = [] ∧ r = { rc := -(E.EMAIL_EMPTY : Int) }) ∨
      ((s ≠ [] ∧ 64 ∉ s ∨ s.getLast? = some 64) ∧ r = { rc := -(E.DOMAIN_EMPTY : Int) }) ∨
      ∃ L D, s = L ++ 64 :: D ∧ 64 ∉ D ∧ D ≠ [] ∧
        ((64 < L.length ∧ r = { rc := -(E.LPART_TOO_LONG : Int) }) ∨
         (L.length ≤ 64 ∧ localOf b m L ≠ 0 ∧ r = { rc := localOf b m L }) ∨
         (L.length ≤ 64 ∧ localOf b m L = 0 ∧ D.head? ≠ some 91 ∧ hostPart b conv m L D tld = .ok r) ∨
         (L.length ≤ 64 ∧ localOf b m L = 0 ∧ D.head? = some 91 ∧ literalPart b L D = .ok r)) := by
  constructor
  · have cut {L D} (h : splitLast 64 s = some (L, D)) := (splitLast_eq_some_iff 64 s L D).1 h
    fun_cases isEmail b conv m s tld with
    | case1 hs => rintro ⟨⟩; exact .inl ⟨by simpa using hs, rfl⟩
    | case2 hs hn => rintro ⟨⟩; exact .inr (.inl ⟨.inl ⟨by simpa using hs, (splitLast_eq_none_iff 64 s).1 hn⟩, rfl⟩)
    | case3 _ L D hsp hD =>
      rintro ⟨⟩; obtain rfl : D = [] := by simpa using hD
      exact .inr (.inl ⟨.inr (by simp [(cut hsp).1]), rfl⟩)
    | case4 _ L D hsp hD hlen =>
      rintro ⟨⟩; exact .inr (.inr ⟨L, D, (cut hsp).1, (cut hsp).2, by simpa using hD, .inl ⟨hlen, rfl⟩⟩)
    | case5 _ L D hsp hD hlen hl =>
      rintro ⟨⟩
      exact .inr (.inr ⟨L, D, (cut hsp).1, (cut hsp).2, by simpa using hD,
        .inr (.inl ⟨Nat.le_of_not_lt hlen, by simpa using hl, rfl⟩)⟩)
    | case6 _ L D hsp hD hlen hl hb =>
      exact fun h => .inr (.inr ⟨L, D, (cut hsp).1, (cut hsp).2, by simpa using hD,
        .inr (.inr (.inl ⟨Nat.le_of_not_lt hlen, by simpa using hl, by simpa using hb, h⟩))⟩)
    | case7 _ L D hsp hD hlen hl hb =>
      exact fun h => .inr (.inr ⟨L, D, (cut hsp).1, (cut hsp).2, by simpa using hD,
        .inr (.inr (.inr ⟨Nat.le_of_not_lt hlen, by simpa using hl, by simpa using hb, h⟩))⟩)
  · rintro (⟨rfl, rfl⟩ | ⟨h, rfl⟩ | ⟨L, D, rfl, hD, hne, h⟩)
    · exact isEmail_nil b conv m tld
    · rcases h with ⟨hs, hn⟩ | hl
      · exact isEmail_noAt b conv m tld hs hn
      · rw [← dropLast_append_of_getLast? s 64 hl, isEmail_at b conv m tld _ (by simp), if_pos rfl]
    · rw [isEmail_at b conv m tld L hD, if_neg hne]
      rcases h with ⟨hl, rfl⟩ | ⟨hl, h0, rfl⟩ | ⟨hl, h0, hb, hh⟩ | ⟨hl, h0, hb, hh⟩
      · rw [if_pos hl]
      · rw [if_neg (by omega), if_pos h0]
      · rw [if_neg (by omega), if_neg (by simp [h0]), if_pos hb, hh]
      · rw [if_neg (by omega), if_neg (by simp [h0]), if_neg (by simp [hb]), hh]

end isEmail

theorem ipVerdict_ok_cases {x : Except Fault Bool} {a c v4 v6 : Bool} {inner lit : List Nat} {rc : Int}
    (h : ipVerdict x a c inner = .ok (rc, v4, v6, lit)) :
    (x = .ok true ∧ rc = 0 ∧ v4 = a ∧ v6 = c ∧ lit = inner) ∨
    (x = .ok false ∧ rc = -(E.IPADDR_INVALID : Int) ∧ v4 = false ∧ v6 = false ∧ lit = []) := by
  rcases x with _ | _ | _ <;> cases h
  · exact .inr ⟨rfl, rfl, rfl, rfl, rfl⟩
  · exact .inl ⟨rfl, rfl, rfl, rfl, rfl⟩

/-- **what `check_ip` reports**: success, on more than eight bytes ending in `]`, with exactly one family and the bytes between the
brackets; or `IPADDR_INVALID`; or `IPADDR_BRACKET_UNPAIR`, the latter only when there is no `]` at all -/
theorem checkIp_ok_cases {d lit : List Nat} {rc : Int} {v4 v6 : Bool} (h : checkIp d = .ok (rc, v4, v6, lit)) :
    (rc = 0 ∧ v4 = !v6 ∧ 8 < d.length ∧ d.getLast? = some 93 ∧ lit = (d.drop 1).dropLast) ∨
    (rc = -(E.IPADDR_INVALID : Int) ∧ v4 = false ∧ v6 = false ∧ lit = []) ∨
    (rc = -(E.IPADDR_BRACKET_UNPAIR : Int) ∧ v4 = false ∧ v6 = false ∧ lit = [] ∧ 93 ∉ d) := by
  revert h
  fun_cases checkIp d with
  | case1 => rintro ⟨⟩; exact .inr (.inl ⟨rfl, rfl, rfl, rfl⟩)
  | case2 _ hs => rintro ⟨⟩; exact .inr (.inr ⟨rfl, rfl, rfl, rfl, (splitLast_eq_none_iff 93 d).1 hs⟩)
  | case3 => rintro ⟨⟩; exact .inr (.inl ⟨rfl, rfl, rfl, rfl⟩)
  | _ hlen pre post hsp hp =>
    -- the three address tests end alike: `d` is `pre ++ "]"`, the literal is `pre` without its first byte
    intro hx
    obtain ⟨rfl, _⟩ := (splitLast_eq_some_iff 93 d pre post).1 hsp
    obtain rfl : post = [] := by simpa using hp
    rcases ipVerdict_ok_cases hx with ⟨_, h0, rfl, rfl, rfl⟩ | ⟨_, hh⟩
    · exact .inl ⟨h0, rfl, Nat.lt_of_not_le hlen, by simp, show pre.drop 1 = _ by cases pre <;> simp⟩
    · exact .inr (.inl hh)

theorem checkIp_ok_zero {d lit : List Nat} {v4 v6 : Bool} (h : checkIp d = .ok (0, v4, v6, lit)) :
    v4 = !v6 ∧ 8 < d.length ∧ d.getLast? = some 93 ∧ lit = (d.drop 1).dropLast := by
  rcases checkIp_ok_cases h with ⟨_, h⟩ | ⟨h, _⟩ | ⟨h, _⟩
  · exact h
  · exact absurd h (by decide)
  · exact absurd h (by decide)

theorem literalPart_ok_cases {b : Build} {l d : List Nat} {r : Result} (h : literalPart b l d = .ok r) :
    (∃ v4 v6 lit, checkIp d = .ok (0, v4, v6, lit) ∧ r = okResult b 0 0 v4 v6 false l lit) ∨
    (∃ rc v4 v6 lit, checkIp d = .ok (rc, v4, v6, lit) ∧ rc ≠ 0 ∧ r = { rc := rc }) := by
  revert h
  fun_cases literalPart b l d with
  | case1 => exact nofun
  | case2 rc v4 v6 lit hc hz => rintro ⟨⟩; rw [eq_of_beq hz] at hc; exact .inl ⟨_, _, _, hc, rfl⟩
  | case3 rc v4 v6 lit hc hz => rintro ⟨⟩; exact .inr ⟨_, _, _, _, hc, by simpa using hz, rfl⟩

theorem literalPart_of_checkIp (b : Build) (l : List Nat) {d lit : List Nat} {v4 v6 : Bool} (h : checkIp d = .ok (0, v4, v6, lit)) :
    literalPart b l d = .ok (okResult b 0 0 v4 v6 false l lit) := by
  simp [literalPart, h]

/-- the literal branch: 0 with the record of the literal, or a bare `IPADDR` code -/
theorem literalPart_rc {b : Build} {l d : List Nat} {r : Result} (h : literalPart b l d = .ok r) :
    (r.rc = 0 ∧ r.isDomain = false ∧ r.isIpv4 = !r.isIpv6) ∨
    (r = { rc := r.rc } ∧ (r.rc = -(E.IPADDR_INVALID : Int) ∨ r.rc = -(E.IPADDR_BRACKET_UNPAIR : Int) ∧ 93 ∉ d)) := by
  rcases literalPart_ok_cases h with ⟨v4, v6, lit, hc, rfl⟩ | ⟨rc, v4, v6, lit, hc, hne, rfl⟩
  · exact .inl ⟨rfl, rfl, (checkIp_ok_zero hc).1⟩
  · rcases checkIp_ok_cases hc with ⟨h0, _⟩ | ⟨h0, _⟩ | ⟨h0, _, _, _, hn⟩
    · exact absurd h0 hne
    · exact .inr ⟨rfl, .inl h0⟩
    · exact .inr ⟨rfl, .inr ⟨h0, hn⟩⟩

theorem checkTld_off (d : List Nat) : checkTld d false = .ok 0 := rfl

theorem checkTld_special {d : List Nat} (h : isSpecialDomain d = .ok true) : checkTld d true = .ok (T.SPECIAL : Int) := by
  simp [checkTld, h]

theorem checkTld_single {d : List Nat} (h : isSpecialDomain d = .ok false) (hn : 46 ∉ d) :
    checkTld d true = .ok (-(E.DOMAIN_NOT_FQDN : Int)) := by
  simp [checkTld, h, (splitLast_eq_none_iff 46 d).2 hn]

theorem checkTld_last {p last : List Nat} (h : isSpecialDomain (p ++ 46 :: last) = .ok false) (hl : 46 ∉ last) :
    checkTld (p ++ 46 :: last) true = .ok (isTld last) := by
  simp [checkTld, h, splitLast_append 46 last hl]

theorem checkTld_ok_cases {d : List Nat} {tld : Bool} {t : Int} (h : checkTld d tld = .ok t) :
    (tld = false ∧ t = 0) ∨
    (tld = true ∧ isSpecialDomain d = .ok true ∧ t = (T.SPECIAL : Int)) ∨
    (tld = true ∧ isSpecialDomain d = .ok false ∧
      (46 ∉ d ∧ t = -(E.DOMAIN_NOT_FQDN : Int) ∨ ∃ p last, d = p ++ 46 :: last ∧ 46 ∉ last ∧ t = isTld last)) := by
  revert h
  fun_cases checkTld d tld with
  | case1 ht => rintro ⟨⟩; exact .inl ⟨by simpa using ht, rfl⟩
  | case2 => exact nofun
  | case3 ht hs => rintro ⟨⟩; exact .inr (.inl ⟨by simpa using ht, hs, rfl⟩)
  | case4 ht hs hn => rintro ⟨⟩; exact .inr (.inr ⟨by simpa using ht, hs, .inl ⟨(splitLast_eq_none_iff 46 d).1 hn, rfl⟩⟩)
  | case5 ht hs p last hl =>
    rintro ⟨⟩
    obtain ⟨e, hn⟩ := (splitLast_eq_some_iff 46 d p last).1 hl
    exact .inr (.inr ⟨by simpa using ht, hs, .inr ⟨p, last, e, hn, rfl⟩⟩)

/-- `is_ascii_domain` followed, if it passed, by `check_tld`: the test the ASCII modes apply to the domain and mode 6531 to its
A-label form.  `rc` is the code, `syn` says that the host-name syntax was accepted. -/
def HostTest (us : Bool) (a : List Nat) (tld : Bool) (rc : Int) (syn : Bool) : Prop :=
  (syn = false ∧ rc ≠ 0 ∧ isAsciiDomain us a [0] = .ok rc) ∨
  (syn = true ∧ isAsciiDomain us a [0] = .ok 0 ∧ checkTld a tld = .ok rc)

/-- a `DOMAIN` code, or whatever `check_tld` said -/
theorem HostTest.rc {us : Bool} {a : List Nat} {tld : Bool} {rc : Int} {syn : Bool} (h : HostTest us a tld rc syn) :
    (-22 ≤ rc ∧ rc ≤ -16) ∨ checkTld a tld = .ok rc := by
  rcases h with ⟨_, hne, hd⟩ | ⟨_, _, ht⟩
  · exact .inl (by rcases isAsciiDomain_ok_cases hd with h | h | h <;> omega)
  · exact .inr ht

theorem isUtf8Domain_ok_cases {b : Build} {conv : List Nat → Conv} {d : List Nat} {tld : Bool} {rc irc : Int}
    (h : isUtf8Domain b conv d tld = .ok (rc, irc)) :
    (d = [] ∧ rc = -(E.DOMAIN_EMPTY : Int) ∧ irc = 0) ∨
    (d ≠ [] ∧ (conv d).rc ≠ 0 ∧ rc = -(E.IDN_ERROR : Int) ∧ irc = (conv d).rc) ∨
    (d ≠ [] ∧ (conv d).rc = 0 ∧ irc = 0 ∧ ∃ a syn, (conv d).out = some a ∧ HostTest b.underscore a tld rc syn) := by
  revert h
  fun_cases isUtf8Domain b conv d tld with
  | case1 hd => rintro ⟨⟩; exact .inl ⟨by simpa using hd, rfl, rfl⟩
  | case2 hd c hc => rintro ⟨⟩; exact .inr (.inl ⟨by simpa using hd, by simpa using hc, rfl, rfl⟩)
  | case3 => exact nofun
  | case4 => exact nofun
  | case5 hd c hc a ha r hr hz =>
    rintro ⟨⟩
    have hc : (conv d).rc = 0 := by simpa using hc
    exact .inr (.inr ⟨by simpa using hd, hc, hc, a, false, ha, .inl ⟨rfl, by simpa using hz, hr⟩⟩)
  | case6 => exact nofun
  | case7 hd c hc a ha r hr hz t ht =>
    rintro ⟨⟩
    have hc : (conv d).rc = 0 := by simpa using hc
    obtain rfl : r = 0 := by simpa using hz
    exact .inr (.inr ⟨by simpa using hd, hc, hc, a, true, ha, .inr ⟨rfl, hr, ht⟩⟩)

/-- the IDN library succeeded with output `a`: the host-name test is applied to `a` -/
theorem isUtf8Domain_conv (b : Build) {conv : List Nat → Conv} {d a : List Nat} (tld : Bool) (hd : d ≠ [])
    (hc : conv d = ⟨0, some a⟩) :
    isUtf8Domain b conv d tld =
      match isAsciiDomain b.underscore a [0] with
      | .error e => .error e
      | .ok rc => if rc != 0 then .ok (rc, 0) else match checkTld a tld with | .error e => .error e | .ok t => .ok (t, 0) := by
  have e : d.isEmpty = false := List.isEmpty_eq_false_iff.mpr hd
  simp only [isUtf8Domain, e, hc, bne_self_eq_false, Bool.false_eq_true, if_false]
  rfl

theorem isUtf8Domain_fail (b : Build) {conv : List Nat → Conv} {d : List Nat} (tld : Bool) (hd : d ≠ []) (hc : (conv d).rc ≠ 0) :
    isUtf8Domain b conv d tld = .ok (-(E.IDN_ERROR : Int), (conv d).rc) := by
  simp [isUtf8Domain, hd, hc]

theorem hostPart_6531 (b : Build) (conv : List Nat → Conv) (l d : List Nat) (tld : Bool) :
    hostPart b conv .m6531 l d tld =
      match isUtf8Domain b conv d tld with
      | .error e => .error e
      | .ok (rc, irc) => if rc ≥ 0 then .ok (okResult b rc irc false false true l d) else .ok { rc := rc, idnRc := irc } := rfl

theorem hostPart_ascii (b : Build) (conv : List Nat → Conv) {m : Mode} (hm : m ≠ .m6531) (l d : List Nat) (tld : Bool) :
    hostPart b conv m l d tld =
      match isAsciiDomain b.underscore d [0] with
      | .error e => .error e
      | .ok rc =>
        if rc == 0 then
          match checkTld d tld with
          | .error e => .error e
          | .ok t => .ok (okResult b t 0 false false true l d)
        else .ok { rc := rc } := by
  cases m <;> first | rfl | exact absurd rfl hm

/-- **the host-name branch**: the ASCII modes test the domain itself and hand out the host record as soon as the syntax passed
(even when `check_tld` then refused); mode 6531 tests what the IDN library made of it and hands out the record only for a
non-negative code.  Either way the code of the record is the code of the test. -/
theorem hostPart_ok_cases {b : Build} {conv : List Nat → Conv} {m : Mode} {l d : List Nat} {tld : Bool} {r : Result}
    (h : hostPart b conv m l d tld = .ok r) :
    (m ≠ .m6531 ∧ ∃ syn, HostTest b.underscore d tld r.rc syn ∧
        r = if syn then okResult b r.rc 0 false false true l d else { rc := r.rc }) ∨
    (m = .m6531 ∧ ∃ irc, isUtf8Domain b conv d tld = .ok (r.rc, irc) ∧
        r = if 0 ≤ r.rc then okResult b r.rc irc false false true l d else { rc := r.rc, idnRc := irc }) := by
  revert h
  fun_cases hostPart b conv m l d tld with
  | case1 => exact nofun
  | case2 rc irc hu hz => rintro ⟨⟩; exact .inr ⟨rfl, irc, hu, (if_pos hz).symm⟩
  | case3 rc irc hu hz => rintro ⟨⟩; exact .inr ⟨rfl, irc, hu, (if_neg hz).symm⟩
  | case4 => exact nofun
  | case5 => exact nofun
  | case6 m rc hr hz t ht hm =>
    rintro ⟨⟩; rw [eq_of_beq hz] at hr; exact .inl ⟨hm, true, .inr ⟨rfl, hr, ht⟩, rfl⟩
  | case7 m rc hr hz hm => rintro ⟨⟩; exact .inl ⟨hm, false, .inl ⟨rfl, by simpa using hz, hr⟩, rfl⟩

/-- codes of `is_utf8_domain`: the IDN error, a `DOMAIN` code, or whatever `check_tld` said of the A-label form -/
theorem isUtf8Domain_rc {b : Build} {conv : List Nat → Conv} {d : List Nat} {tld : Bool} {rc irc : Int}
    (h : isUtf8Domain b conv d tld = .ok (rc, irc)) :
    rc = -(E.IDN_ERROR : Int) ∨ (-22 ≤ rc ∧ rc ≤ -16) ∨ ∃ a, checkTld a tld = .ok rc := by
  rcases isUtf8Domain_ok_cases h with ⟨_, h, _⟩ | ⟨_, _, h, _⟩ | ⟨_, _, _, a, syn, _, ht⟩
  · exact .inr (.inl (by rw [h]; decide))
  · exact .inl h
  · exact .inr (ht.rc.imp_right fun h => ⟨a, h⟩)

/-- codes of the host-name branch: the same three kinds -/
theorem hostPart_rc {b : Build} {conv : List Nat → Conv} {m : Mode} {l d : List Nat} {tld : Bool} {r : Result}
    (h : hostPart b conv m l d tld = .ok r) :
    r.rc = -(E.IDN_ERROR : Int) ∨ (-22 ≤ r.rc ∧ r.rc ≤ -16) ∨ ∃ a, checkTld a tld = .ok r.rc := by
  rcases hostPart_ok_cases h with ⟨_, syn, ht, _⟩ | ⟨_, irc, hu, _⟩
  · exact .inr (ht.rc.imp_right fun h => ⟨d, h⟩)
  · exact isUtf8Domain_rc hu

/-- **the codes of `is_*_email`**: one of its own negative codes, down to `-EEAV_IPADDR_BRACKET_UNPAIR` = −25 (or 0 for a literal), or
whatever `check_tld` said of some name -/
theorem isEmail_rc {b : Build} {conv : List Nat → Conv} {m : Mode} {s : List Nat} {tld : Bool} {r : Result}
    (h : isEmail b conv m s tld = .ok r) : (-25 ≤ r.rc ∧ r.rc ≤ 0) ∨ ∃ a, checkTld a tld = .ok r.rc := by
  rcases (isEmail_ok_iff b conv m tld).mp h with ⟨_, rfl⟩ | ⟨_, rfl⟩ | ⟨L, D, _, _, _, ⟨_, rfl⟩ | ⟨_, _, rfl⟩ | ⟨_, _, _, hh⟩ | ⟨_, _, _, hh⟩⟩
  · exact .inl (by decide)
  · exact .inl (by decide)
  · exact .inl (by decide)
  · exact .inl (by rcases localOf_range b m L with h | h | h <;> simp only [] <;> omega)
  · rcases hostPart_rc hh with h | h | h
    · exact .inl (by rw [h]; decide)
    · exact .inl (by omega)
    · exact .inr h
  · exact .inl (by rcases literalPart_rc hh with ⟨h, _⟩ | ⟨_, h | ⟨h, _⟩⟩ <;> rw [h] <;> decide)

/-- **the three shapes of the record**: a bare negative code (nothing else set, but `idn_rc` after an IDN failure); the host
record, handed out by the ASCII modes as soon as the syntax of the name passed and by mode 6531 for a non-negative code only;
the record of an accepted literal -/
theorem isEmail_record {b : Build} {conv : List Nat → Conv} {m : Mode} {s : List Nat} {tld : Bool} {r : Result}
    (h : isEmail b conv m s tld = .ok r) :
    (∃ e irc, e < 0 ∧ r = { rc := e, idnRc := irc }) ∨
    ∃ L D, s = L ++ 64 :: D ∧ 64 ∉ D ∧ D ≠ [] ∧ L.length ≤ 64 ∧ localOf b m L = 0 ∧
      ((D.head? ≠ some 91 ∧ ∃ rc irc, r = okResult b rc irc false false true L D ∧
          (m ≠ .m6531 ∧ irc = 0 ∧ isAsciiDomain b.underscore D [0] = .ok 0 ∧ checkTld D tld = .ok rc ∨
           m = .m6531 ∧ 0 ≤ rc ∧ isUtf8Domain b conv D tld = .ok (rc, irc))) ∨
       (D.head? = some 91 ∧ ∃ v4 v6 lit, checkIp D = .ok (0, v4, v6, lit) ∧ r = okResult b 0 0 v4 v6 false L lit)) := by
  rcases (isEmail_ok_iff b conv m tld).mp h with
    ⟨_, rfl⟩ | ⟨_, rfl⟩ | ⟨L, D, hs, hD, hne, ⟨_, rfl⟩ | ⟨_, hl, rfl⟩ | ⟨hlen, hl, hb, hh⟩ | ⟨hlen, hl, hb, hh⟩⟩
  · exact .inl ⟨_, 0, by decide, rfl⟩
  · exact .inl ⟨_, 0, by decide, rfl⟩
  · exact .inl ⟨_, 0, by decide, rfl⟩
  · exact .inl ⟨_, 0, by rcases localOf_range b m L with h | h | h <;> omega, rfl⟩
  · rcases hostPart_ok_cases hh with ⟨hm, syn, ht, hr⟩ | ⟨hm, irc, hu, hr⟩
    · rcases ht with ⟨rfl, hz, hd⟩ | ⟨rfl, hd, ht⟩
      · exact .inl ⟨r.rc, 0, by rcases isAsciiDomain_ok_cases hd with h | h | h <;> omega, hr⟩
      · exact .inr ⟨L, D, hs, hD, hne, hlen, hl, .inl ⟨hb, r.rc, 0, hr, .inl ⟨hm, rfl, hd, ht⟩⟩⟩
    · by_cases hge : 0 ≤ r.rc
      · rw [if_pos hge] at hr; exact .inr ⟨L, D, hs, hD, hne, hlen, hl, .inl ⟨hb, r.rc, irc, hr, .inr ⟨hm, hge, hu⟩⟩⟩
      · rw [if_neg hge] at hr; exact .inl ⟨r.rc, irc, by omega, hr⟩
  · rcases literalPart_ok_cases hh with ⟨v4, v6, lit, hc, rfl⟩ | ⟨rc, v4, v6, lit, hc, hz, rfl⟩
    · exact .inr ⟨L, D, hs, hD, hne, hlen, hl, .inr ⟨hb, v4, v6, lit, hc, rfl⟩⟩
    · refine .inl ⟨rc, 0, ?_, rfl⟩
      rcases checkIp_ok_cases hc with ⟨h, _⟩ | ⟨h, _⟩ | ⟨h, _⟩
      · exact absurd h hz
      · rw [h]; decide
      · rw [h]; decide

end Eav
