import Eav.Spec.Ip
import Eav.Lemmas.Split
/-!
# The address grammars

Facts about the grammars of `Eav/Spec/Ip.lean` that do not involve the model, and: the executable forms (`v6_4291`,
`v6_5321`: what the S stream evaluates) are the inductive grammars (`IsV6_4291`, `IsV6_5321`: what the theorems are
stated against).  A run of hexadecimal groups (`IsGroups`) is a tail (`IsTail`) whose dotted-quad test always fails, so
every fact is proved for `IsTail` only.
-/
namespace Eav
open Eav.Spec

theorem h16_iff {g : List Nat} : h16 g = true ↔ g.all isHex = true ∧ g ≠ [] ∧ ¬ g.length > 4 := by
  simp only [h16, Bool.and_eq_true, decide_eq_true_eq, ← List.length_pos_iff, Nat.not_lt]
  exact ⟨fun ⟨⟨h1, h4⟩, ha⟩ => ⟨ha, h1, h4⟩, fun ⟨ha, h1, h4⟩ => ⟨⟨h1, h4⟩, ha⟩⟩

theorem h16_no_colon {g : List Nat} (h : h16 g = true) : 58 ∉ g := by
  intro hm
  have := (h16_iff.mp h).1
  rw [List.all_eq_true] at this
  exact absurd (this 58 hm) (by decide)

/-- what both grammars need of a dotted-quad test: a quad is not empty, has no colon and is not a hex group -/
def QuadLike (q : List Nat → Bool) : Prop := ∀ t, q t = true → t ≠ [] ∧ 58 ∉ t ∧ h16 t = false

theorem QuadLike.and {q : List Nat → Bool} (hq : QuadLike q) (b : Bool) : QuadLike (fun t => b && q t) :=
  fun t h => hq t (by simp only [Bool.and_eq_true] at h; exact h.2)

theorem quadLike_false : QuadLike (fun _ => false) := fun _ h => nomatch h

/-- a dotted quad consists of digits and dots only -/
theorem v4_chars {t : List Nat} (h : v4 t = true) : ∀ x ∈ t, isDigit x = true ∨ x = 46 := by
  intro x hx
  simp only [v4, Bool.and_eq_true, List.all_eq_true] at h
  rcases mem_splitOn 46 t x hx with h1 | ⟨w, hw, hxw⟩
  · exact Or.inr h1
  · have := h.2 w hw
    simp only [decOctet, Bool.and_eq_true, List.all_eq_true] at this
    exact Or.inl (this.1.2 x hxw)

theorem v4_dot_false (xs : List Nat) : v4 (46 :: xs) = false := by
  simp [v4, splitOn_sep, decOctet]

theorem v4_quadLike : QuadLike v4 := by
  intro t ht
  have hch := v4_chars ht
  refine ⟨?_, ?_, ?_⟩
  · intro h; subst h; simp [v4, splitOn] at ht
  · intro hm
    rcases hch 58 hm with h | h <;> exact absurd h (by decide)
  · -- a dotted quad contains a dot, a hexadecimal group does not
    cases hh : h16 t with
    | false => rfl
    | true =>
      exfalso
      have hhex := (h16_iff.mp hh).1
      rw [List.all_eq_true] at hhex
      have h46 : 46 ∈ t := by
        simp only [v4, Bool.and_eq_true, beq_iff_eq] at ht
        rcases splitOn_view 46 t with ⟨_, h1⟩ | ⟨w, t', rfl, _, _⟩
        · rw [h1] at ht; simp at ht
        · simp
      exact absurd (hhex 46 h46) (by decide)

theorem v4Snum_v4 {t : List Nat} (h : v4Snum t = true) : v4 t = true := by
  simp only [v4Snum, v4, Bool.and_eq_true, beq_iff_eq, List.all_eq_true] at h ⊢
  refine ⟨h.1, fun o ho => ?_⟩
  have := h.2 o ho
  simp only [snum, Bool.and_eq_true] at this
  exact this.1

/-- the first octet of an RFC 5321 dotted quad: one to three digits, then a dot -/
theorem quad_decomp {t : List Nat} (h : v4Snum t = true) :
    ∃ w t', t = w ++ 46 :: t' ∧ w ≠ [] ∧ w.all isDigit = true ∧ w.length ≤ 3 ∧ v4 t = true := by
  have hv4 := v4Snum_v4 h
  simp only [v4Snum, Bool.and_eq_true, beq_iff_eq] at h
  obtain ⟨hlen, hall⟩ := h
  rcases splitOn_view 46 t with ⟨_, h1⟩ | ⟨w, t', rfl, _, h1⟩
  · rw [h1] at hlen; simp at hlen
  · rw [h1] at hall
    simp only [List.all_cons, Bool.and_eq_true, snum, decOctet, decide_eq_true_eq] at hall
    refine ⟨w, t', rfl, ?_, hall.1.1.1.2, hall.1.2, hv4⟩
    rintro rfl; simp at hall

theorem quad5321_quadLike : QuadLike quad5321 := by
  intro t ht
  simp only [quad5321, Bool.and_eq_true] at ht
  exact v4_quadLike t (v4Snum_v4 ht.1)

/-- groups only are tails whose quad test always fails -/
theorem isGroups_iff_isTail {n : Nat} {s : List Nat} : IsGroups n s ↔ IsTail (fun _ => false) n s := by
  constructor
  · intro h
    induction h with
    | one hg => exact .one hg
    | cons hg _ ih => exact .cons hg ih
  · intro h
    induction h with
    | one hg => exact .one hg
    | quad hq => cases hq
    | cons hg _ ih => exact .cons hg ih

theorem isTail_ne_nil {q : List Nat → Bool} (hq : QuadLike q) {n : Nat} {s : List Nat} (h : IsTail q n s) : s ≠ [] := by
  cases h with
  | one hg => exact (h16_iff.mp hg).2.1
  | quad hq' => exact (hq _ hq').1
  | cons => simp

/-- a tail does not begin with a colon, whatever follows it -/
theorem isTail_head {q : List Nat → Bool} (hq : QuadLike q) {n : Nat} {s : List Nat} (h : IsTail q n s) (rest : List Nat) :
    (s ++ rest).headD 93 ≠ 58 := by
  have key : ∀ t : List Nat, t ≠ [] → 58 ∉ t → ∀ r, (t ++ r).headD 93 ≠ 58 := by
    intro t hne hnc r
    cases t with
    | nil => exact absurd rfl hne
    | cons c t' => exact fun e => hnc (by simp [← e])
  cases h with
  | one hg => exact key _ (h16_iff.mp hg).2.1 (h16_no_colon hg) _
  | quad hq' => exact key _ (hq _ hq').1 (hq _ hq').2.1 _
  | cons hg _ => rw [List.append_assoc]; exact key _ (h16_iff.mp hg).2.1 (h16_no_colon hg) _

/-- `groupsCount` on the list of fields -/
def countFields (q : List Nat → Bool) : List (List Nat) → Option Nat
  | [] => none
  | [last] => if h16 last then some 1 else if q last then some 2 else none
  | f :: f2 :: fs => if h16 f then (countFields q (f2 :: fs)).map (· + 1) else none

theorem groupsCount_eq (q : List Nat → Bool) (at' : Bool) (s : List Nat) (hs : s ≠ []) :
    groupsCount q at' s = countFields (fun t => at' && q t) (splitOn 58 s) := by
  unfold groupsCount
  rw [if_neg (by simpa using hs)]
  generalize splitOn 58 s = fs
  induction fs with
  | nil => rfl
  | cons f fs ih =>
    cases fs with
    | nil => simp [countFields]
    | cons f2 fs2 =>
      simp only [List.dropLast_cons_cons, List.getLast?_cons_cons, List.all_cons, List.length_cons] at ih ⊢
      rw [countFields, ← ih]
      cases (f2 :: fs2).getLast? with
      | none => simp
      | some last =>
        cases h16 f
        · simp
        · -- one more group in front: the `+ 1` goes through the tests
          simp only [Bool.true_and, if_true, apply_ite (Option.map (· + 1)), Option.map_none, Option.map_some,
            Nat.add_right_comm _ 2 1]

theorem isTail_of_countFields {q : List Nat → Bool} (s : List Nat) : ∀ (n : Nat),
    countFields q (splitOn 58 s) = some n → IsTail q n s := by
  induction s using splitOn_ind 58 with
  | last s _ h1 =>
    intro n hc
    rw [h1, countFields] at hc
    by_cases hg : h16 s = true
    · rw [if_pos hg] at hc; cases hc; exact .one hg
    · by_cases hq : q s = true
      · rw [if_neg hg, if_pos hq] at hc; cases hc; exact .quad hq
      · rw [if_neg hg, if_neg hq] at hc; cases hc
  | cut f t' _ h1 ih =>
    intro n hc
    obtain ⟨f2, fs, e⟩ := splitOn_eq_cons 58 t'
    rw [h1, e, countFields, ← e] at hc
    by_cases hg : h16 f = true
    · rw [if_pos hg] at hc
      obtain ⟨m, hm, rfl⟩ := Option.map_eq_some_iff.mp hc
      exact .cons hg (ih m hm)
    · rw [if_neg hg] at hc; cases hc

theorem countFields_of_isTail {q : List Nat → Bool} (hq : QuadLike q) {n : Nat} {s : List Nat} (h : IsTail q n s) :
    countFields q (splitOn 58 s) = some n := by
  induction h with
  | one hg => rw [splitOn_no_sep 58 _ (h16_no_colon hg), countFields, if_pos hg]
  | quad hq' => rw [splitOn_no_sep 58 _ (hq _ hq').2.1, countFields, if_neg (by simp [(hq _ hq').2.2]), if_pos hq']
  | @cons g s' n' hg _ ih =>
    obtain ⟨f2, fs, e⟩ := splitOn_eq_cons 58 s'
    rw [splitOn_append 58 g s' (h16_no_colon hg), e, countFields, ← e, if_pos hg, ih]; rfl

theorem countFields_iff {q : List Nat → Bool} (hq : QuadLike q) (s : List Nat) (n : Nat) :
    countFields q (splitOn 58 s) = some n ↔ IsTail q n s :=
  ⟨isTail_of_countFields s n, countFields_of_isTail hq⟩

theorem groupsCount_iff {q : List Nat → Bool} (hq : QuadLike q) (b : Bool) (s : List Nat) (n : Nat) :
    groupsCount q b s = some n ↔ (s = [] ∧ n = 0 ∨ IsTail (fun t => b && q t) n s) := by
  by_cases hs : s = []
  · subst hs
    have e : groupsCount q b [] = some 0 := rfl
    rw [e]
    constructor
    · intro h; cases h; exact Or.inl ⟨rfl, rfl⟩
    · rintro (⟨_, h⟩ | h)
      · rw [h]
      · exact absurd rfl (isTail_ne_nil (hq.and b) h)
  · rw [groupsCount_eq q b s hs, countFields_iff (hq.and b) s n]
    exact ⟨Or.inr, fun h => h.resolve_left (fun h => hs h.1)⟩

theorem findDC_cons2 (x y : Nat) (rest : List Nat) (h : ¬ (x = 58 ∧ y = 58)) :
    findDC (x :: y :: rest) = (findDC (y :: rest)).map fun (l, r) => (x :: l, r) := by
  rw [findDC]
  have : (x == 58 && y == 58) = false := by
    cases hx : x == 58 <;> cases hy : y == 58 <;> simp_all
  rw [this]; rfl

theorem findDC_some : ∀ (a l r : List Nat), findDC a = some (l, r) → a = l ++ 58 :: 58 :: r
  | [], l, r, h => by simp [findDC] at h
  | [x], l, r, h => by simp [findDC] at h
  | x :: y :: rest, l, r, h => by
    by_cases hxy : x = 58 ∧ y = 58
    · obtain ⟨rfl, rfl⟩ := hxy
      simp only [findDC, beq_self_eq_true, Bool.and_self, if_true, Option.some.injEq, Prod.mk.injEq] at h
      obtain ⟨rfl, rfl⟩ := h; rfl
    · rw [findDC_cons2 x y rest hxy] at h
      simp only [Option.map_eq_some_iff] at h
      obtain ⟨⟨l', r'⟩, hf, he⟩ := h
      simp only [Prod.mk.injEq] at he
      obtain ⟨rfl, rfl⟩ := he
      rw [findDC_some (y :: rest) l' r' hf]; rfl

/-- a prefix without colon is stepped over: the first `::` of the rest is the first `::` of the whole -/
theorem findDC_append : ∀ (g rest : List Nat), 58 ∉ g →
    findDC (g ++ rest) = (findDC rest).map fun (l, r) => (g ++ l, r)
  | [], rest, _ => by
    rw [List.nil_append]
    cases findDC rest with
    | none => rfl
    | some p => obtain ⟨l, r⟩ := p; rfl
  | x :: g, rest, h => by
    have hx : x ≠ 58 := fun e => h (by simp [e])
    have ih := findDC_append g rest (fun hm => h (by simp [hm]))
    cases hgr : g ++ rest with
    | nil =>
      obtain ⟨rfl, rfl⟩ := List.append_eq_nil_iff.mp hgr
      rfl
    | cons y t =>
      rw [List.cons_append, hgr, findDC_cons2 x y t (fun e => hx e.1), ← hgr, ih]
      cases findDC rest with
      | none => rfl
      | some p => obtain ⟨l, r⟩ := p; rfl

/-- … and so is a single colon -/
theorem findDC_colon (rest : List Nat) (h : rest.head? ≠ some 58) :
    findDC (58 :: rest) = (findDC rest).map fun (l, r) => (58 :: l, r) := by
  cases rest with
  | nil => rfl
  | cons y t => exact findDC_cons2 58 y t (fun e => h (by simp [e.2]))

/-- a tail contains no `::`, so the first `::` behind it is found there -/
theorem isTail_findDC {q : List Nat → Bool} (hq : QuadLike q) {n : Nat} {s : List Nat} (h : IsTail q n s) :
    findDC s = none ∧ ∀ r, findDC (s ++ 58 :: 58 :: r) = some (s, r) := by
  have base : ∀ u : List Nat, 58 ∉ u → findDC u = none ∧ ∀ r, findDC (u ++ 58 :: 58 :: r) = some (u, r) := by
    intro u hu
    refine ⟨by simpa [findDC] using findDC_append u [] hu, fun r => ?_⟩
    rw [findDC_append u _ hu]
    simp [findDC]
  induction h with
  | one hg => exact base _ (h16_no_colon hg)
  | quad hq' => exact base _ (hq _ hq').2.1
  | @cons g s n hg hs ih =>
    have hd : ∀ rest, (s ++ rest).head? ≠ some 58 := fun rest e =>
      isTail_head hq hs rest (by simp [List.headD_eq_head?_getD, e])
    refine ⟨?_, fun r => ?_⟩
    · rw [findDC_append g _ (h16_no_colon hg), findDC_colon s (by simpa using hd []), ih.1]; rfl
    · rw [List.append_assoc, List.cons_append, findDC_append g _ (h16_no_colon hg),
        findDC_colon _ (by simpa using hd (58 :: 58 :: r)), ih.2 r]
      rfl

/-- **executable form ⇔ inductive grammar**, for any dotted-quad test and any bound on the groups written around `::` -/
theorem v6_generic {q : List Nat → Bool} (hq : QuadLike q) (m : Nat) (a : List Nat) :
    (match findDC a with
      | none => groupsCount q true a == some 8
      | some (l, r) =>
        match groupsCount q false l, groupsCount q true r with
        | some nl, some nr => decide (nl + nr ≤ m)
        | _, _ => false) = true ↔ IsV6 q m a := by
  have hT := fun s n => groupsCount_iff hq true s n
  have hG : ∀ s n, groupsCount q false s = some n ↔ (s = [] ∧ n = 0 ∨ IsGroups n s) := fun s n =>
    (groupsCount_iff hq false s n).trans (or_congr_right isGroups_iff_isTail.symm)
  constructor
  · intro h
    split at h
    · rcases (hT a 8).mp (beq_iff_eq.mp h) with ⟨_, h8⟩ | ht
      · cases h8
      · exact Or.inl ht
    · next l r hf =>
      split at h
      · next nl nr hl hr =>
        exact Or.inr ⟨l, r, nl, nr, findDC_some a l r hf, (hG l nl).mp hl, (hT r nr).mp hr, of_decide_eq_true h⟩
      · cases h
  · rintro (ht | ⟨l, r, nl, nr, rfl, hl, hr, hle⟩)
    · rw [(isTail_findDC hq ht).1]
      exact beq_iff_eq.mpr ((hT a 8).mpr (Or.inr ht))
    · have hf : findDC (l ++ 58 :: 58 :: r) = some (l, r) := by
        rcases hl with ⟨rfl, _⟩ | hg
        · simp [findDC]
        · exact (isTail_findDC quadLike_false (isGroups_iff_isTail.mp hg)).2 r
      rw [hf]
      simp only
      rw [(hG l nl).mpr hl, (hT r nr).mpr hr]
      exact decide_eq_true hle

theorem v6_4291_iff (a : List Nat) : v6_4291 a = true ↔ IsV6_4291 a := by
  unfold v6_4291 IsV6_4291
  exact v6_generic v4_quadLike 7 a

theorem v6_5321_iff (a : List Nat) : v6_5321 a = true ↔ IsV6_5321 a := by
  unfold v6_5321 IsV6_5321
  exact v6_generic quad5321_quadLike 6 a

end Eav
