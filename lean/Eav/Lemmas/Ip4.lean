import Eav.Ip
import Eav.Lemmas.Split
/-!
# `is_ipv4` ≡ "four decimal octets, single dots" — exact, for every NUL-free byte string

`ipv4Loop_eq` is the loop invariant: from any reachable state the loop returns what the specification
says about the remaining bytes.  The Postfix "bad initial octet" test (`start[strspn(start, "0.")]`) reads on
past `end`; in every call the library makes the byte at `end` is `]` or a later byte of the same literal, never
NUL, so a first octet of value zero is rejected (`hw`).
-/
namespace Eav
open Eav.Spec

def decStep (acc d : Nat) : Nat := acc * 10 + (d - 48)
def decFrom (bv : Nat) (w : List Nat) : Nat := w.foldl decStep bv

theorem decVal_eq (w : List Nat) : decVal w = decFrom 0 w := by
  unfold decVal decFrom; rfl
theorem decFrom_cons (bv c : Nat) (w : List Nat) : decFrom bv (c :: w) = decFrom (bv * 10 + (c - 48)) w := by
  unfold decFrom; rw [List.foldl_cons]; unfold decStep; rfl
theorem decFrom_ge (w : List Nat) : ∀ (bv : Nat), bv ≤ decFrom bv w := by
  induction w with
  | nil => intro bv; exact Nat.le_refl _
  | cons c w ih =>
    intro bv
    rw [decFrom_cons]
    have h := ih (bv * 10 + (c - 48))
    omega
@[simp] theorem decFrom_nil (bv : Nat) : decFrom bv [] = bv := rfl

/-- what the specification says about the bytes still to be read, given the octet parser's state -/
def v4Rest (cs : List Nat) (inByte : Bool) (bv bc : Nat) : Bool :=
  match splitOn 46 cs with
  | [] => false
  | w :: ws =>
    let cur := if inByte then w.all isDigit && decide (decFrom bv w ≤ 255) else decOctet w
    let val := if inByte then decFrom bv w else decVal w
    let bc' := if inByte then bc else bc + 1
    cur && ws.all decOctet && (bc' + ws.length == 4) && (!(bc' == 1 && !ws.isEmpty) || val != 0)

/-! `v4Rest` obeys the recursion of the loop: one equation per kind of byte -/

theorem v4Rest_nil (ib : Bool) (bv bc : Nat) (h : ib = true → bv ≤ 255) (h' : ib = false → bc = 0) :
    v4Rest [] ib bv bc = (bc == 4) := by
  cases ib
  · simp [v4Rest, splitOn, decOctet, h' rfl]
  · simp [v4Rest, splitOn, h rfl]

theorem v4Rest_digit {c : Nat} (hd : isDigit c = true) (cs : List Nat) (ib : Bool) (bv bc : Nat) :
    v4Rest (c :: cs) ib bv bc =
      (!decide ((if ib then bv else 0) * 10 + (c - 48) > 255) &&
        v4Rest cs true ((if ib then bv else 0) * 10 + (c - 48)) (if ib then bc else bc + 1)) := by
  have hne : c ≠ 46 := by rintro rfl; exact absurd hd (by decide)
  obtain ⟨w, ws, hs, hs'⟩ := splitOn_cons_ne (c := 46) cs hne
  have := decFrom_ge w ((if ib then bv else 0) * 10 + (c - 48))
  cases ib <;> simp [v4Rest, hs, hs', decOctet, decVal_eq, decFrom_cons, hd]
  all_goals simp at this; intros; omega

theorem v4Rest_other {c : Nat} (hd : isDigit c = false) (h46 : c ≠ 46) (cs : List Nat) (ib : Bool) (bv bc : Nat) :
    v4Rest (c :: cs) ib bv bc = false := by
  obtain ⟨w, ws, hs, hs'⟩ := splitOn_cons_ne (c := 46) cs h46
  cases ib <;> simp [v4Rest, hs', decOctet, hd]

theorem v4Rest_dot (cs : List Nat) (ib : Bool) (bv bc : Nat) (h : ib = true → bv ≤ 255 ∧ 1 ≤ bc) :
    v4Rest (46 :: cs) ib bv bc = (ib && !(bc == 1 && bv == 0) && v4Rest cs false bv bc) := by
  cases ib
  · simp [v4Rest, splitOn_sep, decOctet]
  · obtain ⟨hb, hbc⟩ := h rfl
    obtain ⟨w2, ws2, hs⟩ := splitOn_eq_cons 46 cs
    have e : (bc + 1 == 1) = false := by simp; omega
    simp [v4Rest, splitOn_sep, hs, hb, e, Nat.add_assoc, Nat.add_comm 1]
    exact Bool.and_comm _ _

theorem ipv4Loop_eq (whole : List Nat) (hw : ∃ b, byteAfterZeroDots whole = .ok b ∧ b ≠ 0) :
    ∀ (cs : List Nat), NulFree cs → ∀ (inByte : Bool) (bv bc : Nat),
    (inByte = true → bv ≤ 255 ∧ 1 ≤ bc) → (inByte = false → cs ≠ [] ∨ bc = 0) →
    ipv4Loop whole cs inByte bv bc = .ok (v4Rest cs inByte bv bc) := by
  intro cs hn ib bv bc h1 h2
  fun_induction ipv4Loop whole cs ib bv bc with
  | case1 ib bv bc =>
    rw [v4Rest_nil ib bv bc (fun h => (h1 h).1) (fun h => (h2 h).resolve_left (fun h => h rfl))]
  | case2 c cs ib bv bc h0 => exact absurd (eq_of_beq h0) (hn c (by simp))
  | case3 c cs ib bv bc _ hd bv' hgt => rw [v4Rest_digit hd, decide_eq_true hgt]; rfl
  | case4 c cs ib bv bc _ hd bc' bv' hgt ih =>
    have hbc : 1 ≤ bc' := by
      cases ib
      · exact Nat.le_add_left 1 bc
      · exact (h1 rfl).2
    rw [v4Rest_digit hd, decide_eq_false hgt, ih (fun d hd => hn d (by simp [hd])) (fun _ => ⟨by omega, hbc⟩) nofun]; rfl
  | case5 c cs ib bv bc _ _ h46 hrej =>
    -- a dot that no octet precedes, or that nothing follows
    obtain rfl := eq_of_beq h46
    rw [v4Rest_dot cs ib bv bc h1]
    cases ib
    · rfl
    · cases cs with
      | nil => simp [v4Rest, splitOn, decOctet]
      | cons d ds => exact absurd (by simpa using hrej) (hn d (by simp))
  | case6 c cs ib bv bc _ _ h46 hrej hz ih =>
    -- the first octet was zero: the `strspn` test, and `whole` goes on with a byte that is not NUL
    obtain rfl := eq_of_beq h46
    obtain ⟨b, hb1, hb2⟩ := hw
    rw [v4Rest_dot cs ib bv bc h1]
    simp [hz, hb1, bind, Except.bind, hb2]
  | case7 c cs ib bv bc _ _ h46 hrej hz ih =>
    obtain rfl := eq_of_beq h46
    have hcs : cs ≠ [] := fun e => hrej (by simp [e])
    rw [v4Rest_dot cs ib bv bc h1, ih (fun d hd => hn d (by simp [hd])) nofun (fun _ => .inl hcs)]
    cases ib
    · exact absurd rfl hrej
    · simp [hz]
  | case8 c cs ib bv bc _ hd h46 => rw [v4Rest_other (by simpa using hd) (by simpa using h46)]

theorem byteAfterZeroDots_bracket : ∀ (s : List Nat), NulFree s → ∃ b, byteAfterZeroDots (s ++ [93, 0]) = .ok b ∧ b ≠ 0
  | [], _ => ⟨93, by decide, by decide⟩
  | c :: cs, hn => by
    simp only [List.cons_append, byteAfterZeroDots]
    split
    · exact byteAfterZeroDots_bracket cs (fun d hd => hn d (by simp [hd]))
    · exact ⟨c, rfl, hn c (by simp)⟩

/-- **`is_ipv4` inside a literal, exactly**: four decimal octets `0..255` separated by single dots, the first
octet not zero; no fault -/
theorem isIpv4_literal (s : List Nat) (hn : NulFree s) :
    isIpv4 s [93, 0] = .ok (v4 s && firstOctetNonZero s) := by
  unfold isIpv4
  rw [ipv4Loop_eq _ (byteAfterZeroDots_bracket s hn) s hn false 0 0 nofun (fun _ => Or.inr rfl)]
  congr 1
  unfold v4Rest v4 firstOctetNonZero
  obtain ⟨w, ws, hs⟩ := splitOn_eq_cons 46 s
  rw [hs]
  -- of four fields the first is not the only one, so `v4Rest` asks for a non-zero first octet
  cases ws with
  | nil => simp
  | cons w2 ws2 => simp [Nat.add_comm, Bool.and_comm, Bool.and_left_comm]

end Eav
