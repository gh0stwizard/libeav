import Eav.Lemmas.Ip4
import Eav.Lemmas.Ip6
import Eav.Lemmas.IpSpec
/-!
# `is_ipv6` accepts every RFC 5321 §4.1.3 address (lower bound)
-/
namespace Eav
open Eav.Spec

theorem isDigit_isHex {c : Nat} (h : isDigit c = true) : isHex c = true := by
  simp [isHex, h]

theorem ipv6Loop_lower_tail {n : Nat} {s : List Nat} (h : IsTail quad5321 n s) : NulFree s → ∀ (f nf : Nat),
    (nf = 0 ∧ f + n = 8 ∨ 0 < nf ∧ 2 ≤ f ∧ f + n ≤ 8) → ipv6Loop s lit f nf [] 0 = .ok true := by
  induction h with
  | @one g hg =>
    intro _ f nf hc
    obtain ⟨ha, hne, h4⟩ := h16_iff.mp hg
    have := ipv6Loop_run g [] f nf [] ha hne rfl
    rw [List.append_nil] at this
    rw [this, if_neg h4, ipv6Loop_nil]
    congr 1
    have hl : g.length ≠ 0 := fun e => hne (List.length_eq_zero_iff.mp e)
    exact (ipv6Fin_iff ..).mpr (by omega)
  | @quad t hq =>
    intro hn f nf hc
    simp only [quad5321, Bool.and_eq_true] at hq
    obtain ⟨w, t', ht, hne, hd, hl3, hv4⟩ := quad_decomp hq.1
    subst ht
    have ha : w.all isHex = true := by
      rw [List.all_eq_true] at hd ⊢
      exact fun c hc => isDigit_isHex (hd c hc)
    rw [ipv6Loop_run w (46 :: t') f nf [] ha hne rfl, if_neg (by omega), ipv6Loop_dot, if_neg (by omega), if_neg (by omega),
      isIpv4_literal _ hn, hv4, hq.2]
    rfl
  | @cons g s' n' hg ht ih =>
    intro hn f nf hc
    obtain ⟨ha, hne, h4⟩ := h16_iff.mp hg
    have hf : ¬ f + 1 > 7 := by
      have : 1 ≤ n' := by cases ht <;> omega
      omega
    rw [ipv6Loop_run g (58 :: s') f nf [] ha hne rfl, if_neg h4, ipv6Loop_colon, if_neg (fun h => hne h.2.1), if_neg hf,
      if_neg (by simpa using isTail_head quad5321_quadLike ht [])]
    exact ih (fun d hd => hn d (by simp [hd])) (f + 1) nf (by omega)

/-- groups in front of `::` are stepped over, one field each, and `::` with two -/
theorem ipv6Loop_lower_groups {nl : Nat} {l : List Nat} (h : IsGroups nl l) : ∀ (r : List Nat) (f : Nat), f + nl + 1 ≤ 7 →
    r.headD 93 ≠ 58 → ipv6Loop (l ++ 58 :: 58 :: r) lit f 0 [] 0 = ipv6Loop r lit (f + nl + 1) (f + nl) [] 0 := by
  induction h with
  | @one g hg =>
    intro r f hf hr
    obtain ⟨ha, hne, h4⟩ := h16_iff.mp hg
    rw [ipv6Loop_run g (58 :: 58 :: r) f 0 [] ha hne rfl, if_neg h4, ipv6Loop_dc, if_neg (by omega), if_neg (Nat.lt_irrefl 0), if_neg hr]
  | @cons g s n hg hs ih =>
    intro r f hf hr
    obtain ⟨ha, hne, h4⟩ := h16_iff.mp hg
    have e : g ++ 58 :: s ++ 58 :: 58 :: r = g ++ 58 :: (s ++ 58 :: 58 :: r) := by simp
    rw [e, ipv6Loop_run g (58 :: (s ++ 58 :: 58 :: r)) f 0 [] ha hne rfl, if_neg h4, ipv6Loop_colon, if_neg (fun h => hne h.2.1),
      if_neg (by omega), if_neg (isTail_head quadLike_false (isGroups_iff_isTail.mp hs) _), ih r (f + 1) (by omega) hr]
    have e1 : f + 1 + n + 1 = f + (n + 1) + 1 := by omega
    have e2 : f + 1 + n = f + (n + 1) := by omega
    rw [e1, e2]

/-- **lower bound**: every RFC 5321 §4.1.3 address is accepted by `is_ipv6` inside a literal -/
theorem isIpv6_lower (s : List Nat) (hn : NulFree s) (h : IsV6_5321 s) : isIpv6 s lit = .ok true := by
  unfold isIpv6
  rcases h with ht | ⟨l, r, nl, nr, rfl, hl, hr, hle⟩
  · exact ipv6Loop_lower_tail ht hn 0 0 (Or.inl ⟨rfl, by omega⟩)
  · have hnr : NulFree r := fun d hd => hn d (by simp [hd])
    have hr58 : r.headD 93 ≠ 58 := by
      rcases hr with ⟨rfl, _⟩ | ht
      · decide
      · simpa using isTail_head quad5321_quadLike ht []
    rcases hl with ⟨rfl, rfl⟩ | hg
    · rw [List.nil_append, ipv6Loop_dc, if_neg (by omega), if_neg (Nat.lt_irrefl 0), if_neg hr58]
      rcases hr with ⟨rfl, _⟩ | ht
      · rw [ipv6Loop_nil]; rfl
      · exact ipv6Loop_lower_tail ht hnr 2 1 (Or.inr ⟨by omega, by omega, by omega⟩)
    · have hp : 1 ≤ nl := by cases hg <;> omega
      rw [ipv6Loop_lower_groups hg r 0 (by omega) hr58]
      rcases hr with ⟨rfl, _⟩ | ht
      · rw [ipv6Loop_nil]
        congr 1
        exact (ipv6Fin_iff ..).mpr (by simp; omega)
      · exact ipv6Loop_lower_tail ht hnr _ _ (Or.inr ⟨by omega, by omega, by omega⟩)

end Eav
