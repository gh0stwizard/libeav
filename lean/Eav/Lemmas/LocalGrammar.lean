import Eav.Spec.Local
/-!
# The executable recogniser `specLocal` accepts exactly the declarative language `IsLocal`

For every mode: `specLocal m s = true ↔ IsLocal m s` (`word *("." word)`, words being atoms or quoted
strings with the mode's quoted content, RFC 822 folding, and the RFC 5322 blank rule).

The recogniser is used through its transitions (`Trans`, `stepSt_eq_some`) and the two equations of `runFrom`
(`runFrom_nil`, `runFrom_cons_iff`); `Lang m st` is the language accepted from state `st`, and `lang_nil` / `lang_cons`
say that it obeys the same two equations.
-/
namespace Eav.Spec
open St

theorem join_cons (w : List Nat) (ws : List (List Nat)) (h : ws ≠ []) :
    join (w :: ws) = w ++ 46 :: join ws := by
  cases ws with
  | nil => exact absurd rfl h
  | cons w' ws => rfl

/-- what may follow a word: nothing, or a dot and another local part -/
def AfterQ (m : LMode) (s : List Nat) : Prop := s = [] ∨ ∃ r, s = 46 :: r ∧ IsLocal m r

/-- the rest of a quoted string and what follows it, `prev` being the raw byte before it -/
def QRest (m : LMode) (prev : Nat) (s : List Nat) : Prop :=
  ∃ (items : List QItem) (t : List Nat), (∀ it ∈ items, okItem m it = true) ∧ s = flat items ++ 34 :: t ∧
    AfterQ m t ∧ (m = .m5322 → wsOk prev items = true)

/-- language accepted from each state -/
def Lang (m : LMode) : St → List Nat → Prop
  | wordStart, s => IsLocal m s
  | inAtom, s => ∃ a, (∀ b ∈ a, atext m b = true) ∧ (s = a ∨ ∃ r, s = a ++ 46 :: r ∧ IsLocal m r)
  | afterQuote, s => AfterQ m s
  | inQuote prev, s => QRest m prev s
  | inPair, s => ∃ b s', s = b :: s' ∧ okItem m (.pair b) = true ∧ QRest m b s'
  | fold1, s => m = .m822 ∧ ∃ w s', s = 10 :: w :: s' ∧ (w = 32 ∨ w = 9) ∧ QRest m w s'
  | fold2, s => m = .m822 ∧ ∃ w s', s = w :: s' ∧ (w = 32 ∨ w = 9) ∧ QRest m w s'

/-! ### the recogniser, arm by arm -/

theorem atext_ne {m : LMode} {b : Nat} (h : atext m b = true) : b ≠ 34 ∧ b ≠ 46 ∧ b ≠ 92 := by
  simp [atext, atextAscii, special] at h
  rcases h with h | h <;> omega

theorem okCh_ne {m : LMode} {b : Nat} (h : okItem m (.ch b) = true) : b ≠ 34 ∧ b ≠ 92 ∧ (m = .m822 → b ≠ 13) := by
  cases m <;> simp [okItem, ascii, printable] at h ⊢ <;> omega

/-- the transitions of `stepSt`, one constructor per arm; `nx` is the byte that follows, which only `qtext` looks at -/
inductive Trans (m : LMode) : St → Nat → Option Nat → St → Prop
  | quote {nx} : Trans m wordStart 34 nx (inQuote 34)
  | first {b nx} : atext m b = true → Trans m wordStart b nx inAtom
  | atom {b nx} : atext m b = true → Trans m inAtom b nx inAtom
  | dot {nx} : Trans m inAtom 46 nx wordStart
  | dotQ {nx} : Trans m afterQuote 46 nx wordStart
  | close {p nx} : Trans m (inQuote p) 34 nx afterQuote
  | bslash {p nx} : Trans m (inQuote p) 92 nx inPair
  | cr {p nx} : m = .m822 → Trans m (inQuote p) 13 nx fold1
  | qtext {p b nx} : okItem m (.ch b) = true → blocked m p b nx = false → Trans m (inQuote p) b nx (inQuote b)
  | pair {b nx} : okItem m (.pair b) = true → Trans m inPair b nx (inQuote b)
  | lf {nx} : m = .m822 → Trans m fold1 10 nx fold2
  | wsp {b nx} : m = .m822 → (b = 32 ∨ b = 9) → Trans m fold2 b nx (inQuote b)

theorem stepSt_eq_some {m : LMode} {st st' : St} {b : Nat} {nx : Option Nat} :
    stepSt m st b nx = some st' ↔ Trans m st b nx st' := by
  constructor
  · -- the twelve arms that return a state are the twelve constructors
    intro h
    revert h
    fun_cases stepSt m st b nx <;> intro h <;> cases h <;>
      (try simp only [Bool.and_eq_true, Bool.or_eq_true, beq_iff_eq, Bool.not_eq_true] at *) <;>
      (try obtain ⟨rfl, _⟩ := ‹_ ∧ _›) <;> (try subst b) <;> constructor <;> first | assumption | rfl
  · intro h
    cases h with
    | first h | atom h => have := atext_ne h; simp [stepSt, *]
    | qtext h hb => have := okCh_ne h; simp [stepSt, *]; exact this.2.2
    | cr h | lf h => subst h; simp [stepSt]
    | wsp h hw => subst h; simp [stepSt, hw]
    | pair h => simp [stepSt, h]
    | _ => simp [stepSt]

theorem runFrom_nil (m : LMode) (st : St) : runFrom m st [] = true ↔ st = inAtom ∨ st = afterQuote := by
  cases st <;> simp [runFrom]

theorem runFrom_cons (m : LMode) (st : St) (b : Nat) (bs : List Nat) :
    runFrom m st (b :: bs) = (match stepSt m st b bs.head? with | some st' => runFrom m st' bs | none => false) := rfl

theorem runFrom_cons_iff {m : LMode} {st : St} {b : Nat} {bs : List Nat} :
    runFrom m st (b :: bs) = true ↔ ∃ st', Trans m st b bs.head? st' ∧ runFrom m st' bs = true := by
  rw [runFrom_cons]
  cases h : stepSt m st b bs.head? with
  | none => exact ⟨nofun, fun ⟨st', ht, _⟩ => by rw [stepSt_eq_some.mpr ht] at h; cases h⟩
  | some st' =>
    exact ⟨fun hr => ⟨st', stepSt_eq_some.mp h, hr⟩, fun ⟨st'', ht, hr⟩ => by
      rw [stepSt_eq_some.mpr ht] at h; cases h; exact hr⟩

/-- the two ways the simulation of `Lemmas/LocalScan.lean` uses the recogniser: a transition is taken … -/
theorem runFrom_cons_of {m : LMode} {st st' : St} {b : Nat} {bs : List Nat} (h : Trans m st b bs.head? st') :
    runFrom m st (b :: bs) = runFrom m st' bs := by
  rw [runFrom_cons, stepSt_eq_some.mpr h]

/-- … or there is none -/
theorem runFrom_cons_false {m : LMode} {st : St} {b : Nat} {bs : List Nat} (h : ∀ st', ¬ Trans m st b bs.head? st') :
    runFrom m st (b :: bs) = false :=
  Bool.eq_false_iff.mpr fun hr => let ⟨st', ht, _⟩ := runFrom_cons_iff.mp hr; h st' ht

/-- RFC 822 folding: behind CR the recogniser reads LF and a space or tab, or nothing -/
theorem runFrom_fold (p : Nat) (S : List Nat) :
    runFrom .m822 (inQuote p) (13 :: S) =
      match S with
      | c1 :: c2 :: S' => c1 == 10 && (c2 == 32 || c2 == 9) && runFrom .m822 (inQuote c2) S'
      | _ => false := by
  rw [runFrom_cons_of (.cr rfl)]
  rcases S with _ | ⟨c1, _ | ⟨c2, S'⟩⟩
  · rfl
  · by_cases h1 : c1 = 10 <;> simp [runFrom, stepSt, h1]
  · by_cases h1 : c1 = 10 <;> by_cases h2 : c2 = 32 ∨ c2 = 9 <;> simp [runFrom_cons, stepSt, h1, h2]

/-! ### the grammar, word by word -/

theorem local_of_word (m : LMode) (w t : List Nat) (hw : IsWord m w) (ht : AfterQ m t) : IsLocal m (w ++ t) := by
  rcases ht with rfl | ⟨r, rfl, ws, hne, hall, rfl⟩
  · exact ⟨[w], by simp, by simpa using hw, by simp [join]⟩
  · exact ⟨w :: ws, by simp, List.forall_mem_cons.mpr ⟨hw, hall⟩, by rw [join_cons w ws hne]⟩

theorem local_inv (m : LMode) (s : List Nat) (h : IsLocal m s) : ∃ w t, IsWord m w ∧ AfterQ m t ∧ s = w ++ t := by
  obtain ⟨ws, hne, hall, rfl⟩ := h
  cases ws with
  | nil => exact absurd rfl hne
  | cons w ws =>
    refine ⟨w, ?_⟩
    cases ws with
    | nil => exact ⟨[], hall w (by simp), Or.inl rfl, by simp [join]⟩
    | cons w' ws =>
      exact ⟨46 :: join (w' :: ws), hall w (by simp),
        Or.inr ⟨_, rfl, w' :: ws, by simp, fun x hx => hall x (List.mem_cons_of_mem _ hx), rfl⟩, rfl⟩

theorem word_ne_nil {m : LMode} {w : List Nat} (h : IsWord m w) : w ≠ [] := by
  rcases h with ⟨h, _⟩ | ⟨items, _, rfl, _⟩
  · exact h
  · simp

theorem okFold_iff {m : LMode} {w : Nat} : okItem m (.fold w) = true ↔ m = .m822 ∧ (w = 32 ∨ w = 9) := by
  cases m <;> simp [okItem]

theorem head_flat (items : List QItem) (t : List Nat) : (flat items ++ 34 :: t).head? = some (nextRaw items) := by
  cases items with
  | nil => simp [flat, nextRaw]
  | cons it rest => cases it <;> simp [flat, nextRaw, QItem.bytes]

theorem flat_cons (it : QItem) (items : List QItem) (t : List Nat) :
    flat (it :: items) ++ t = it.bytes ++ (flat items ++ t) := by
  simp [flat]

theorem blocked_of_ne {m : LMode} (h : m ≠ .m5322) (p b : Nat) (nx : Option Nat) : blocked m p b nx = false := by
  have : (m == LMode.m5322) = false := by simpa using h
  simp [blocked, this]

/-- the blank rule of the grammar at an unescaped byte is the recogniser's test, the byte that follows being the first raw
byte of the rest of the quoted string -/
theorem wsOk_ch (p b : Nat) (items : List QItem) (t : List Nat) :
    wsOk p (.ch b :: items) = (!blocked .m5322 p b (flat items ++ 34 :: t).head? && wsOk b items) := by
  rw [head_flat]
  cases h1 : blank b <;> cases h2 : wsq p <;> cases h3 : wsq (nextRaw items) <;> simp [wsOk, blocked, h1, h2, h3]

/-! ### `Lang m st` is what the recogniser accepts from `st` -/

theorem sound (m : LMode) : ∀ (s : List Nat) (st : St), runFrom m st s = true → Lang m st s := by
  intro s
  induction s with
  | nil =>
    intro st h
    rcases (runFrom_nil m st).mp h with rfl | rfl
    · exact ⟨[], nofun, .inl rfl⟩
    · exact .inl rfl
  | cons b bs ih =>
    intro st h
    obtain ⟨st', ht, hr⟩ := runFrom_cons_iff.mp h
    have L := ih st' hr
    cases ht with
    | quote =>
      obtain ⟨items, t, hok, rfl, ht, hws⟩ := L
      show IsLocal m _
      simpa using local_of_word m (34 :: flat items ++ [34]) t (.inr ⟨items, hok, rfl, hws⟩) ht
    | first ha =>
      obtain ⟨a, haa, hs⟩ := L
      have hw : IsWord m (b :: a) := .inl ⟨by simp, List.forall_mem_cons.mpr ⟨ha, haa⟩⟩
      rcases hs with rfl | ⟨r, rfl, hl⟩
      · show IsLocal m _
        simpa using local_of_word m _ [] hw (.inl rfl)
      · exact local_of_word m (b :: a) (46 :: r) hw (.inr ⟨r, rfl, hl⟩)
    | atom ha =>
      obtain ⟨a, haa, hs⟩ := L
      exact ⟨b :: a, List.forall_mem_cons.mpr ⟨ha, haa⟩, hs.imp (congrArg _) fun ⟨r, e, hl⟩ => ⟨r, congrArg _ e, hl⟩⟩
    | dot => exact ⟨[], nofun, .inr ⟨bs, rfl, L⟩⟩
    | dotQ => exact .inr ⟨bs, rfl, L⟩
    | close => exact ⟨[], bs, nofun, rfl, L, fun _ => rfl⟩
    | bslash =>
      obtain ⟨c, s', rfl, hc, items, t, hok, rfl, ht, hws⟩ := L
      exact ⟨.pair c :: items, t, List.forall_mem_cons.mpr ⟨hc, hok⟩, (flat_cons (.pair c) items _).symm, ht, hws⟩
    | cr hm =>
      obtain ⟨_, w, s', rfl, hw, items, t, hok, rfl, ht, _⟩ := L
      subst hm
      exact ⟨.fold w :: items, t, List.forall_mem_cons.mpr ⟨okFold_iff.mpr ⟨rfl, hw⟩, hok⟩, (flat_cons (.fold w) items _).symm, ht, nofun⟩
    | qtext hb hbl =>
      obtain ⟨items, t, hok, rfl, ht, hws⟩ := L
      refine ⟨.ch b :: items, t, List.forall_mem_cons.mpr ⟨hb, hok⟩, (flat_cons (.ch b) items _).symm, ht, fun hm => ?_⟩
      subst hm
      rw [wsOk_ch _ _ _ t, hbl, hws rfl]; rfl
    | pair hp => exact ⟨b, bs, rfl, hp, L⟩
    | lf hm => exact ⟨hm, L.2.imp fun w ⟨s', e, h⟩ => ⟨s', congrArg _ e, h⟩⟩
    | wsp hm hw => exact ⟨hm, b, bs, rfl, hw, L⟩

theorem complete (m : LMode) : ∀ (s : List Nat) (st : St), Lang m st s → runFrom m st s = true := by
  intro s
  induction s with
  | nil =>
    intro st h
    cases st with
    | inAtom | afterQuote => rfl
    | wordStart =>
      obtain ⟨w, t, hw, _, he⟩ := local_inv m _ h
      exact absurd (List.append_eq_nil_iff.mp he.symm).1 (word_ne_nil hw)
    | inQuote prev => obtain ⟨items, t, _, he, _⟩ := h; simp at he
    | inPair => obtain ⟨b, s', he, _⟩ := h; cases he
    | fold1 | fold2 => obtain ⟨_, w, s', he, _⟩ := h; cases he
  | cons b bs ih =>
    intro st h
    -- a transition on `b` into a state from which `bs` is in the language
    suffices ∃ st', Trans m st b bs.head? st' ∧ Lang m st' bs from
      runFrom_cons_iff.mpr (this.imp fun st' h => ⟨h.1, ih st' h.2⟩)
    cases st with
    | wordStart =>
      obtain ⟨w, t, hw, ht, he⟩ := local_inv m _ h
      rcases hw with ⟨hne, hat⟩ | ⟨items, hok, rfl, hws⟩
      · obtain ⟨x, a, rfl⟩ := List.exists_cons_of_ne_nil hne
        rw [List.cons_append] at he
        cases he
        refine ⟨inAtom, .first (hat b (by simp)), a, fun y hy => hat y (by simp [hy]), ?_⟩
        exact ht.imp (fun e => by rw [e, List.append_nil]) fun ⟨r, e, hr⟩ => ⟨r, by rw [e], hr⟩
      · obtain ⟨rfl, rfl⟩ : b = 34 ∧ bs = flat items ++ 34 :: t := by simpa using he
        exact ⟨inQuote 34, .quote, items, t, hok, rfl, ht, hws⟩
    | inAtom =>
      obtain ⟨a, haa, hs⟩ := h
      cases a with
      | nil =>
        obtain ⟨r, hs, hr⟩ := hs.resolve_left nofun
        cases hs
        exact ⟨wordStart, .dot, hr⟩
      | cons x a =>
        obtain rfl : b = x := by rcases hs with hs | ⟨r, hs, _⟩ <;> cases hs <;> rfl
        refine ⟨inAtom, .atom (haa b (by simp)), a, fun y hy => haa y (by simp [hy]), ?_⟩
        exact hs.imp (fun e => (List.cons.inj e).2) fun ⟨r, e, hr⟩ => ⟨r, (List.cons.inj e).2, hr⟩
    | afterQuote =>
      obtain ⟨r, he, hr⟩ := h.resolve_left nofun
      cases he
      exact ⟨wordStart, .dotQ, hr⟩
    | inQuote prev =>
      obtain ⟨items, t, hok, he, ht, hws⟩ := h
      cases items with
      | nil => cases he; exact ⟨afterQuote, .close, ht⟩
      | cons it items =>
        have hit := hok it (by simp)
        have hok' : ∀ i ∈ items, okItem m i = true := fun i hi => hok i (by simp [hi])
        rw [flat_cons] at he
        cases it with
        | ch c =>
          cases he
          refine ⟨inQuote b, .qtext hit ?_, items, t, hok', rfl, ht, fun hm => ?_⟩
          · by_cases hm : m = .m5322
            · have := hws hm
              rw [wsOk_ch _ _ _ t, Bool.and_eq_true, Bool.not_eq_true'] at this
              exact hm ▸ this.1
            · exact blocked_of_ne hm ..
          · have := hws hm
            rw [wsOk_ch _ _ _ t, Bool.and_eq_true] at this
            exact this.2
        | pair c => cases he; exact ⟨inPair, .bslash, c, _, rfl, hit, items, t, hok', rfl, ht, hws⟩
        | fold w =>
          cases he
          obtain ⟨hm, hw⟩ := okFold_iff.mp hit
          exact ⟨fold1, .cr hm, hm, w, _, rfl, hw, items, t, hok', rfl, ht, fun h => by rw [hm] at h; cases h⟩
    | inPair =>
      obtain ⟨c, s', he, hc, hq⟩ := h
      cases he
      exact ⟨inQuote b, .pair hc, hq⟩
    | fold1 =>
      obtain ⟨hm, w, s', he, hw, hq⟩ := h
      cases he
      exact ⟨fold2, .lf hm, hm, w, s', rfl, hw, hq⟩
    | fold2 =>
      obtain ⟨hm, w, s', he, hw, hq⟩ := h
      cases he
      exact ⟨inQuote b, .wsp hm hw, hq⟩

/-- **the recogniser decides the grammar** -/
theorem specLocal_iff (m : LMode) (s : List Nat) : specLocal m s = true ↔ IsLocal m s :=
  ⟨sound m s wordStart, complete m s wordStart⟩

end Eav.Spec
