import Eav.Email
import Eav.Lemmas.Utf8
/-!
# One scanner with a configuration

The four local-part scanners of `Eav/Local.lean` share one skeleton and differ in five places: where the
characters come from (bytes up to a NUL, or the UTF-8 decoder), whether control characters are refused inside
quotes too, RFC 822 folding, the RFC 5322 blank rule, and the additional specials of `RFC6531_FOLLOW_RFC20`.
`scan` is that skeleton with the differences as a configuration `Scan`; `loc5321Loop_eq` … `loc6531Loop_eq`
say that each model scanner is an instance.  Facts about the scanners are proved once, about `scan`, from facts
about the non-recursive `scanStep` through the induction principle `scan_ind`.
-/
namespace Eav

/-- where the scanners differ -/
structure Scan where
  utf8 : Bool := false        -- characters are read by the UTF-8 decoder; otherwise bytes, and a NUL ends the scan
  ctlAll : Bool := false      -- control characters are refused inside quotes and after a backslash too
  fold : Bool := false        -- RFC 822: CR LF SP/HT inside quotes
  blank : Bool := false       -- RFC 5322: an unescaped blank needs a blank or a DQUOTE next to it
  extra : List Nat := []      -- specials in addition to `specials`
  endByte : Nat := 0          -- the byte at `*end`, which the folding test may read

def Scan.m5321 : Scan := { ctlAll := true }
def Scan.m822 (endByte : Nat) : Scan := { fold := true, endByte := endByte }
def Scan.m5322 : Scan := { blank := true }
def Scan.m6531 (b : LBuild) : Scan :=
  { utf8 := true, ctlAll := !b.rfc5322, blank := b.rfc5322, extra := if b.rfc20 then rfc20set else [] }

/-- the next character and the input after it -/
def nextCh (utf8 : Bool) (inp : List Nat) : Dec :=
  if utf8 then decodeNext inp
  else match inp with
    | [] => .fin
    | c :: cs => if c == 0 then .fin else .ch c cs

/-- what one character makes of the scanner's variables -/
inductive Act
  | ret (r : Int)                                                 -- return `r`
  | go (prev : Option Nat) (quote qpair : Bool) (skip : Nat)      -- next iteration, `skip` bytes further on

/-- the loop body: `first` is the first byte of the character `c`, `rest` the input after it -/
def scanStep (k : Scan) (prev first : Option Nat) (quote qpair : Bool) (c : Nat) (rest : List Nat) : Act :=
  if c > 127 then
    if !k.utf8 || qpair then .ret (-(E.LPART_NOT_ASCII : Int)) else .go first quote qpair 0
  else if k.ctlAll && isCntrl c then .ret (-(E.LPART_CTRL_CHAR : Int))
  else if !quote then
    if !k.ctlAll && !qpair && isCntrl c then .ret (-(E.LPART_CTRL_CHAR : Int))
    else match unquotedStep k.extra prev c rest with
      | .error e => .ret e
      | .ok q => .go first q qpair 0
  else if qpair then .go first quote false 0
  else if c == 34 then
    if closeOk rest then .go first false qpair 0 else .ret (-(E.LPART_MISPLACED_QUOTE : Int))
  else if c == 92 then .go first quote true 0
  else if k.fold && c == 13 then
    match rest with
    | [] => .ret (-(E.LPART_INVALID_FOLDING : Int))
    | [c1] =>
      if c1 == 10 && (k.endByte == 9 || k.endByte == 32) then .ret (locFin quote)
      else .ret (-(E.LPART_INVALID_FOLDING : Int))
    | c1 :: c2 :: _ =>
      if c1 == 10 && (c2 == 9 || c2 == 32) then .go (some c2) quote qpair 2
      else .ret (-(E.LPART_INVALID_FOLDING : Int))
  else if k.blank && blanks.contains c then
    if (match prev with | some p => wsq.contains p | none => false) then .go first quote qpair 0
    else match rest.head? with
      | none => .go first quote qpair 0
      | some n =>
        if (k.utf8 && n > 127) || wsq.contains n then .go first quote qpair 0
        else .ret (-(E.LPART_UNQUOTED_FWS : Int))
  else .go first quote qpair 0

theorem nextCh_bytes {inp : List Nat} {c : Nat} {rest : List Nat} (h : nextCh false inp = .ch c rest) : inp = c :: rest ∧ c ≠ 0 := by
  cases inp with
  | nil => cases h
  | cons d ds =>
    by_cases hd : (d == 0) = true
    · simp [nextCh, hd] at h
    · simp only [nextCh, hd, Bool.false_eq_true, if_false, Dec.ch.injEq] at h
      obtain ⟨rfl, rfl⟩ := h
      exact ⟨rfl, by simpa using hd⟩

theorem nextCh_length {utf8 : Bool} {inp : List Nat} {c : Nat} {rest : List Nat}
    (h : nextCh utf8 inp = .ch c rest) : rest.length < inp.length := by
  cases utf8
  · rw [(nextCh_bytes h).1]; exact Nat.lt_succ_self _
  · exact decodeNext_length h

/-- what the loop returns after this step: the code, or what the next iteration returns -/
def Act.run (loop : Option Nat → Bool → Bool → Nat → Int) : Act → Int
  | .ret r => r
  | .go prev quote qpair skip => loop prev quote qpair skip

theorem Act.run_ret (loop : Option Nat → Bool → Bool → Nat → Int) (r : Int) : (Act.ret r).run loop = r := rfl
theorem Act.run_go (loop : Option Nat → Bool → Bool → Nat → Int) (p : Option Nat) (q qp : Bool) (n : Nat) :
    (Act.go p q qp n).run loop = loop p q qp n := rfl

/-- `R` holds of the code if the step returns, `G` of the next iteration's variables and the bytes skipped if it goes on -/
def Act.All (R : Int → Prop) (G : Option Nat → Bool → Bool → Nat → Prop) : Act → Prop
  | .ret r => R r
  | .go p q qp n => G p q qp n

theorem Act.all_ret (R : Int → Prop) (G : Option Nat → Bool → Bool → Nat → Prop) (r : Int) : (Act.ret r).All R G ↔ R r := Iff.rfl
theorem Act.all_go (R : Int → Prop) (G : Option Nat → Bool → Bool → Nat → Prop) (p : Option Nat) (q qp : Bool) (n : Nat) :
    (Act.go p q qp n).All R G ↔ G p q qp n := Iff.rfl

/-- the loop the four `is_*_local` share: read a character, take `scanStep`, go on behind the bytes it skips -/
def scan (k : Scan) (prev : Option Nat) (quote qpair : Bool) (inp : List Nat) : Int :=
  match h : nextCh k.utf8 inp with
  | .fin => locFin quote
  | .err => -(E.LPART_INVALID_UTF8 : Int)
  | .ch c rest => (scanStep k prev inp.head? quote qpair c rest).run fun p q qp n => scan k p q qp (rest.drop n)
termination_by inp.length
decreasing_by
  have := nextCh_length h
  simp only [List.length_drop]
  omega


theorem scan_eq (k : Scan) (prev : Option Nat) (quote qpair : Bool) (inp : List Nat) :
    scan k prev quote qpair inp =
      match nextCh k.utf8 inp with
      | .fin => locFin quote
      | .err => -(E.LPART_INVALID_UTF8 : Int)
      | .ch c rest => (scanStep k prev inp.head? quote qpair c rest).run fun p q qp n => scan k p q qp (rest.drop n) := by
  rw [scan]
  split <;> rename_i h <;> simp only [h]

/-- induction along a run: `P` relates the variables and the input at an iteration to the value finally returned -/
theorem scan_ind {k : Scan} {P : Option Nat → Bool → Bool → List Nat → Int → Prop}
    (fin : ∀ {prev quote qpair inp}, nextCh k.utf8 inp = .fin → P prev quote qpair inp (locFin quote))
    (err : ∀ {prev quote qpair inp}, nextCh k.utf8 inp = .err → P prev quote qpair inp (-(E.LPART_INVALID_UTF8 : Int)))
    (ret : ∀ {prev quote qpair inp c rest r}, nextCh k.utf8 inp = .ch c rest →
      scanStep k prev inp.head? quote qpair c rest = .ret r → P prev quote qpair inp r)
    (go : ∀ {prev quote qpair inp c rest p q qp n r}, nextCh k.utf8 inp = .ch c rest →
      scanStep k prev inp.head? quote qpair c rest = .go p q qp n → P p q qp (rest.drop n) r → P prev quote qpair inp r)
    (prev : Option Nat) (quote qpair : Bool) (inp : List Nat) : P prev quote qpair inp (scan k prev quote qpair inp) := by
  fun_induction scan k prev quote qpair inp with
  | case1 prev quote qpair inp h => exact fin h
  | case2 prev quote qpair inp h => exact err h
  | case3 prev quote qpair inp c rest h ih =>
    cases hs : scanStep k prev inp.head? quote qpair c rest with
    | ret r => exact ret h hs
    | go p q qp n => exact go h hs (ih p q qp n)

/-! ### the model scanners are instances -/

theorem loc5321Loop_eq : ∀ (cs : List Nat) (prev : Option Nat) (quote qpair : Bool),
    loc5321Loop prev quote qpair cs = scan .m5321 prev quote qpair cs
  | [], _, _, _ => by rw [scan_eq]; rfl
  | c :: cs, prev, quote, qpair => by
    have ih := loc5321Loop_eq cs
    rw [scan_eq, loc5321Loop]
    generalize hu : unquotedStep [] prev c cs = u
    -- `by_cases`, not `split`: on a goal of this size `split` costs ten times the rest of the proof
    by_cases h0 : (c == 0) = true <;> cases u <;>
      simp only [ih, h0, Scan.m5321, nextCh, scanStep, hu, Bool.false_and, Bool.true_and, Bool.not_true, Bool.not_false,
        Bool.true_or, Bool.false_eq_true, if_true, if_false, List.head?_cons, apply_ite (Act.run _), Act.run_ret, Act.run_go,
        List.drop_zero] <;> rfl

theorem loc5322Loop_eq : ∀ (cs : List Nat) (prev : Option Nat) (quote qpair : Bool),
    loc5322Loop prev quote qpair cs = scan .m5322 prev quote qpair cs
  | [], _, _, _ => by rw [scan_eq]; rfl
  | c :: cs, prev, quote, qpair => by
    have ih := loc5322Loop_eq cs
    rw [scan_eq]; unfold loc5322Loop
    generalize hu : unquotedStep [] prev c cs = u
    by_cases h0 : (c == 0) = true <;> cases u <;> cases cs <;>
      simp only [ih, h0, Scan.m5322, nextCh, scanStep, hu, Bool.false_and, Bool.true_and, Bool.not_false, Bool.true_or,
        Bool.false_or, Bool.false_eq_true, if_true, if_false, List.head?_cons, List.head?_nil, apply_ite (Act.run _),
        Act.run_ret, Act.run_go, List.drop_zero] <;> rfl

theorem loc822Loop_eq (e : Nat) : ∀ (cs : List Nat) (prev : Option Nat) (quote qpair : Bool),
    loc822Loop e prev quote qpair cs = scan (.m822 e) prev quote qpair cs
  | [], _, _, _ => by rw [scan_eq]; rfl
  | c :: cs, prev, quote, qpair => by
    have ih := loc822Loop_eq e cs
    have ih2 := loc822Loop_eq e (cs.drop 2)     -- behind a folding sequence
    rw [scan_eq]; unfold loc822Loop
    by_cases h0 : (c == 0) = true
    · simp only [h0, Scan.m822, nextCh, Bool.false_eq_true, if_true, if_false]
    · simp only [ih, h0, Scan.m822, nextCh, Bool.false_eq_true, if_false]
      generalize hu : unquotedStep [] prev c cs = u
      rcases cs with _ | ⟨c1, _ | ⟨c2, rest⟩⟩ <;> simp only [List.drop_succ_cons, List.drop_zero, List.drop_nil] at ih2 <;>
        cases u <;>
        simp only [ih2, scanStep, hu, Bool.false_and, Bool.true_and, Bool.not_false, Bool.true_or, Bool.false_eq_true, if_true,
          if_false, List.head?_cons, apply_ite (Act.run _), Act.run_ret, Act.run_go, List.drop_zero, List.drop_succ_cons] <;> rfl
termination_by cs => cs.length
decreasing_by all_goals simp only [List.length_cons, List.length_drop]; omega

theorem loc6531Loop_eq (b : LBuild) (prev : Option Nat) (quote qpair : Bool) (inp : List Nat) :
    loc6531Loop b prev quote qpair inp = scan (.m6531 b) prev quote qpair inp := by
  generalize hn : inp.length = n
  induction n using Nat.strongRecOn generalizing prev quote qpair inp with
  | ind n ih =>
    rw [scan_eq, loc6531Loop.eq_def]
    simp only [Scan.m6531, nextCh, if_true]
    split
    · rename_i h; simp only [h]
    · rename_i h; simp only [h]
    · rename_i c rest h
      have ih' := fun p q qp => ih rest.length (by have := decodeNext_length h; omega) p q qp rest rfl
      generalize hu : unquotedStep (if b.rfc20 = true then rfc20set else []) prev c rest = u
      generalize hh : rest.head? = nx
      cases u <;> cases nx <;>
      simp only [h, ih', scanStep, hu, hh, Bool.true_and, Bool.not_not, Bool.not_true, Bool.false_or, Bool.false_and,
        Bool.false_eq_true, if_false, apply_ite (Act.run _), Act.run_ret, Act.run_go, List.drop_zero] <;> rfl

/-! behind the emptiness test each `is_*_local` is `scan` -/

theorem is5321Local_eq (s : List Nat) :
    is5321Local s = if s.isEmpty then -(E.LPART_EMPTY : Int) else scan .m5321 none false false s := by
  rw [is5321Local, loc5321Loop_eq]
theorem is822Local_eq (s : List Nat) (e : Nat) :
    is822Local s e = if s.isEmpty then -(E.LPART_EMPTY : Int) else scan (.m822 e) none false false s := by
  rw [is822Local, loc822Loop_eq]
theorem is5322Local_eq (s : List Nat) :
    is5322Local s = if s.isEmpty then -(E.LPART_EMPTY : Int) else scan .m5322 none false false s := by
  rw [is5322Local, loc5322Loop_eq]
theorem is6531Local_eq (lb : LBuild) (s : List Nat) :
    is6531Local lb s = if s.isEmpty then -(E.LPART_EMPTY : Int) else scan (.m6531 lb) none false false s := by
  rw [is6531Local, loc6531Loop_eq]

/-- the configuration of a mode in a build; 64 is the `@` behind the local part -/
def Scan.of (b : Build) : Mode → Scan
  | .m822 => .m822 64
  | .m5321 => .m5321
  | .m5322 => .m5322
  | .m6531 => .m6531 b.l

theorem localOf_eq (b : Build) (m : Mode) (l : List Nat) :
    localOf b m l = if l.isEmpty then -(E.LPART_EMPTY : Int) else scan (.of b m) none false false l := by
  cases m <;> simp only [localOf, is822Local_eq, is5321Local_eq, is5322Local_eq, is6531Local_eq, Scan.of]

/-! ### the values a scanner can return -/

/-- the codes of the unquoted step lie in `-EEAV_LPART_INVALID_UTF8 … -EEAV_LPART_NOT_ASCII` (−15 … −6); `-EEAV_LPART_TOO_MANY_DOTS`
(−11) is returned only at a dot that is followed by a dot -/
theorem unquotedStep_error {ex : List Nat} {prev : Option Nat} {c : Nat} {cs : List Nat} {e : Int}
    (h : unquotedStep ex prev c cs = .error e) :
    (-15 ≤ e ∧ e ≤ -6) ∧ (e = -11 → c = 46 ∧ cs.head? = some 46) := by
  revert h
  fun_cases unquotedStep ex prev c cs <;> intro h <;> cases h <;> simp_all

/-- a return from inside the loop is an error code of the local part; only folding skips bytes -/
theorem scanStep_all (k : Scan) (prev first : Option Nat) (quote qpair : Bool) (c : Nat) (rest : List Nat) :
    (scanStep k prev first quote qpair c rest).All
      (fun r => (-15 ≤ r ∧ r ≤ -6) ∧ (r = -11 → c = 46 ∧ rest.head? = some 46))
      (fun _ _ _ n => n = 0 ∨ k.fold = true) := by
  fun_cases scanStep k prev first quote qpair c rest
  all_goals first
    | exact ⟨by decide, nofun⟩
    | exact unquotedStep_error ‹_›
    | (simp_all [Act.All, locFin]; done)

/-- what a character stands in front of: the rest of the input; an ASCII character is one byte -/
theorem nextCh_ch {utf8 : Bool} {inp : List Nat} {c : Nat} {rest : List Nat} (h : nextCh utf8 inp = .ch c rest) :
    (∃ p, inp = p ++ rest) ∧ (c ≤ 127 → inp = c :: rest) := by
  cases utf8
  · exact ⟨⟨[c], (nextCh_bytes h).1⟩, fun _ => (nextCh_bytes h).1⟩
  · obtain ⟨_, rfl⟩ := decodeNext_sound (show decodeNext inp = .ch c rest from h)
    exact ⟨⟨_, rfl⟩, fun hc => by rw [utf8Enc_ascii (Nat.lt_succ_of_le hc)]; rfl⟩

theorem scan_range (k : Scan) (prev : Option Nat) (quote qpair : Bool) (inp : List Nat) :
    scan k prev quote qpair inp = 0 ∨ (-15 ≤ scan k prev quote qpair inp ∧ scan k prev quote qpair inp ≤ -6) := by
  refine scan_ind (P := fun _ _ _ _ r => r = 0 ∨ (-15 ≤ r ∧ r ≤ -6)) ?_ ?_ ?_ ?_ prev quote qpair inp
  · intro _ quote _ _ _; cases quote <;> simp [locFin]
  · intros; right; decide
  · intro prev quote qpair inp c rest r _ hs
    have := scanStep_all k prev inp.head? quote qpair c rest
    rw [hs] at this
    exact Or.inr this.1
  · intros; assumption

theorem scan_dots (k : Scan) (prev : Option Nat) (quote qpair : Bool) (inp : List Nat)
    (h : scan k prev quote qpair inp = -(E.LPART_TOO_MANY_DOTS : Int)) : ∃ p q, inp = p ++ 46 :: 46 :: q := by
  refine scan_ind (P := fun _ _ _ inp r => r = -11 → ∃ p q, inp = p ++ 46 :: 46 :: q) ?_ ?_ ?_ ?_ prev quote qpair inp h
  · intro _ quote _ _ _; cases quote <;> simp [locFin]
  · intros _ _ _ _ _ h; cases h
  · intro prev quote qpair inp c rest r hc hs hr
    have := scanStep_all k prev inp.head? quote qpair c rest
    rw [hs] at this
    obtain ⟨rfl, hd⟩ := this.2 hr
    rw [(nextCh_ch hc).2 (by decide)]
    cases rest with
    | nil => cases hd
    | cons d ds => cases hd; exact ⟨[], ds, rfl⟩
  · intro prev quote qpair inp c rest p q qp n r hc _ ih hr
    obtain ⟨a, b, hab⟩ := ih hr
    obtain ⟨pre, rfl⟩ := (nextCh_ch hc).1
    refine ⟨pre ++ rest.take n ++ a, b, ?_⟩
    rw [List.append_assoc, List.append_assoc, ← hab, List.take_append_drop]

/-- a local-part scanner returns 0, `EEAV_LPART_EMPTY`, or one of the codes `EEAV_LPART_NOT_ASCII … EEAV_LPART_INVALID_UTF8` —
never `EEAV_LPART_TOO_LONG`, never a code of another validator -/
theorem localOf_range (b : Build) (m : Mode) (l : List Nat) :
    localOf b m l = 0 ∨ localOf b m l = -4 ∨ (-15 ≤ localOf b m l ∧ localOf b m l ≤ -6) := by
  rw [localOf_eq]
  split
  · exact Or.inr (Or.inl rfl)
  · have := scan_range (.of b m) none false false l; omega

theorem localOf_nonpos (b : Build) (m : Mode) (l : List Nat) : localOf b m l ≤ 0 := by
  have := localOf_range b m l; omega

/-! ### two configurations on the same input -/

/-- two configurations return the same value from a position on if, as long as an invariant `I` of the run holds,
they read the same character and take the same step -/
theorem scan_congr {k k' : Scan} {I : Option Nat → Bool → Bool → List Nat → Prop}
    (next : ∀ {prev quote qpair inp}, I prev quote qpair inp → nextCh k.utf8 inp = nextCh k'.utf8 inp)
    (step : ∀ {prev quote qpair inp c rest}, I prev quote qpair inp → nextCh k.utf8 inp = .ch c rest →
      scanStep k prev inp.head? quote qpair c rest = scanStep k' prev inp.head? quote qpair c rest)
    (keep : ∀ {prev quote qpair inp c rest p q qp n}, I prev quote qpair inp → nextCh k.utf8 inp = .ch c rest →
      scanStep k prev inp.head? quote qpair c rest = .go p q qp n → I p q qp (rest.drop n))
    (prev : Option Nat) (quote qpair : Bool) (inp : List Nat) (h : I prev quote qpair inp) :
    scan k prev quote qpair inp = scan k' prev quote qpair inp := by
  refine scan_ind (P := fun prev quote qpair inp r => I prev quote qpair inp → r = scan k' prev quote qpair inp)
    ?_ ?_ ?_ ?_ prev quote qpair inp h
  · intro _ _ _ _ hc hI; rw [scan_eq, ← next hI, hc]
  · intro _ _ _ _ hc hI; rw [scan_eq, ← next hI, hc]
  · intro _ _ _ _ _ _ _ hc hs hI; rw [scan_eq, ← next hI, hc]; simp only; rw [← step hI hc, hs]; rfl
  · intro _ _ _ _ _ _ _ _ _ _ _ hc hs ih hI
    rw [scan_eq (k := k'), ← next hI, hc]; simp only; rw [← step hI hc, hs]; exact ih (keep hI hc hs)

theorem nextCh_ascii (utf8 : Bool) {inp : List Nat} (h : ∀ c ∈ inp, c ≤ 127 ∧ c ≠ 0) :
    nextCh utf8 inp = match inp with | [] => .fin | c :: cs => .ch c cs := by
  cases inp with
  | nil => cases utf8 <;> rfl
  | cons c cs => have := h c (by simp); cases utf8 <;> simp [nextCh, decodeNext, Nat.lt_succ_of_le this.1, this.2]

/-- on ASCII input without NUL a character is the first byte, whoever reads it -/
theorem nextCh_ascii_ch {utf8 : Bool} {inp : List Nat} {c : Nat} {rest : List Nat} (h : ∀ c ∈ inp, c ≤ 127 ∧ c ≠ 0)
    (hc : nextCh utf8 inp = .ch c rest) : inp = c :: rest := by
  rw [nextCh_ascii _ h] at hc
  cases inp <;> cases hc
  rfl

theorem nextCh_forall {utf8 : Bool} {inp : List Nat} {c : Nat} {rest : List Nat} (hc : nextCh utf8 inp = .ch c rest)
    {P : Nat → Prop} (h : ∀ x ∈ inp, P x) (n : Nat) : ∀ x ∈ rest.drop n, P x := by
  obtain ⟨p, rfl⟩ := (nextCh_ch hc).1
  exact fun x hx => h x (List.mem_append_right _ (List.mem_of_mem_drop hx))

theorem scan_ascii (k : Scan) (prev : Option Nat) (quote qpair : Bool) (inp : List Nat) (h : ∀ c ∈ inp, c ≤ 127 ∧ c ≠ 0) :
    scan { k with utf8 := true } prev quote qpair inp = scan { k with utf8 := false } prev quote qpair inp := by
  refine scan_congr (I := fun _ _ _ inp => ∀ c ∈ inp, c ≤ 127 ∧ c ≠ 0) ?_ ?_ ?_ prev quote qpair inp h
  · intro _ _ _ inp hI; rw [nextCh_ascii _ hI, nextCh_ascii _ hI]
  · intro prev quote qpair inp c rest hI hc
    obtain rfl := nextCh_ascii_ch hI hc
    have hle : ¬ c > 127 := by have := hI c (by simp); omega
    -- the only other use of the flag: a non-ASCII byte behind a blank
    cases rest with
    | nil => simp only [scanStep, hle, if_false, List.head?_nil]
    | cons n ns =>
      have hn : decide (n > 127) = false := by have := hI n (by simp); simp; omega
      simp only [scanStep, hle, if_false, List.head?_cons, hn, Bool.and_false]
  · intro _ _ _ _ _ _ _ _ _ n hI hc _; exact nextCh_forall hc hI n

theorem unquotedStep_extra {ex : List Nat} (prev : Option Nat) {c : Nat} (cs : List Nat) (h : ex.contains c = false) :
    unquotedStep ex prev c cs = unquotedStep [] prev c cs := by
  simp only [unquotedStep, h, List.contains_nil]; rfl

theorem scan_extra (k : Scan) (ex : List Nat) (prev : Option Nat) (quote qpair : Bool) (inp : List Nat)
    (h : ∀ c ∈ inp, ex.contains c = false) :
    scan { k with extra := ex } prev quote qpair inp = scan { k with extra := [] } prev quote qpair inp := by
  refine scan_congr (k := { k with extra := ex }) (k' := { k with extra := [] })
    (I := fun _ _ _ inp => ∀ c ∈ inp, ex.contains c = false) (fun _ => rfl) ?_ ?_ prev quote qpair inp h
  · intro prev quote qpair inp c rest hI hc
    by_cases hgt : c > 127
    · simp only [scanStep, hgt, if_true]
    · rw [(nextCh_ch hc).2 (by omega)] at hI
      simp only [scanStep, hgt, if_false, unquotedStep_extra prev rest (hI c (by simp))]
  · intro _ _ _ _ _ _ _ _ _ n hI hc _; exact nextCh_forall hc hI n

theorem unquotedStep_ok {ex : List Nat} {prev : Option Nat} {c : Nat} {cs : List Nat} {q : Bool}
    (h : unquotedStep ex prev c cs = .ok q) : q = (c == 34) := by
  revert h
  fun_cases unquotedStep ex prev c cs <;> intro h <;> cases h <;> simp_all

/-- outside quotes, on ASCII input without DQUOTE and NUL, configurations with the same additional specials do the same:
they differ only in what they admit inside quotes -/
theorem scan_unquoted (k k' : Scan) (hx : k.extra = k'.extra) (prev : Option Nat) (inp : List Nat)
    (h : ∀ c ∈ inp, c ≤ 127 ∧ c ≠ 0 ∧ c ≠ 34) : scan k prev false false inp = scan k' prev false false inp := by
  have h' : ∀ {inp : List Nat}, (∀ c ∈ inp, c ≤ 127 ∧ c ≠ 0 ∧ c ≠ 34) → ∀ c ∈ inp, c ≤ 127 ∧ c ≠ 0 :=
    fun h c hc => ⟨(h c hc).1, (h c hc).2.1⟩
  refine scan_congr (I := fun _ quote qpair inp => quote = false ∧ qpair = false ∧ ∀ c ∈ inp, c ≤ 127 ∧ c ≠ 0 ∧ c ≠ 34)
    ?_ ?_ ?_ prev false false inp ⟨rfl, rfl, h⟩
  · intro _ _ _ inp hI; rw [nextCh_ascii _ (h' hI.2.2), nextCh_ascii _ (h' hI.2.2)]
  · intro prev quote qpair inp c rest ⟨hq, hqp, hI⟩ hc
    obtain rfl := nextCh_ascii_ch (h' hI) hc
    have hle : ¬ c > 127 := by have := hI c (by simp); omega
    subst hq hqp
    -- outside quotes a control character is refused by the first test or by the second: `ctlAll` only says which
    cases h1 : k.ctlAll <;> cases h2 : k'.ctlAll <;> simp [scanStep, hle, h1, h2, hx]
  · intro prev quote qpair inp c rest p q qp n ⟨hq, hqp, hI⟩ hc hs
    have h34 : (c == 34) = false := by
      have := hI c (by rw [nextCh_ascii_ch (h' hI) hc]; simp); simpa using this.2.2
    subst hq hqp
    -- without a DQUOTE the scanner stays outside quotes
    have : (scanStep k prev inp.head? false false c rest).All (fun _ => True) (fun _ q qp _ => q = false ∧ qp = false) := by
      unfold scanStep
      cases hu : unquotedStep k.extra prev c rest with
      | error e => simp [apply_ite (Act.All _ _), Act.all_ret, Act.all_go]
      | ok q' => simp [apply_ite (Act.All _ _), Act.all_ret, Act.all_go, unquotedStep_ok hu, h34]
    rw [hs] at this
    exact ⟨this.1, this.2, nextCh_forall hc hI n⟩

/-- what a decoder-driven scanner accepts is well-formed UTF-8; without folding, because a folding step skips raw bytes and
would leave the decoder's position -/
theorem scan_decodes (k : Scan) (hu : k.utf8 = true) (hf : k.fold = false) (prev : Option Nat) (quote qpair : Bool)
    (inp : List Nat) (h : scan k prev quote qpair inp = 0) : ∃ cps, decAll inp = some cps := by
  refine scan_ind (P := fun _ _ _ inp r => r = 0 → ∃ cps, decAll inp = some cps) ?_ ?_ ?_ ?_ prev quote qpair inp h
  · intro _ _ _ inp hc _; rw [hu] at hc; exact ⟨[], decAll_fin hc⟩
  · intro _ _ _ _ _ h; cases h
  · intro prev quote qpair inp c rest r _ hs hr
    have := scanStep_all k prev inp.head? quote qpair c rest
    rw [hs, hr] at this
    exact absurd this.1.2 (by decide)
  · intro prev quote qpair inp c rest p q qp n r hc hs ih hr
    have := scanStep_all k prev inp.head? quote qpair c rest
    rw [hs, Act.all_go, hf] at this
    obtain ⟨cps, hd⟩ := ih hr
    rw [hu] at hc
    rw [this.resolve_right (by decide), List.drop_zero] at hd
    exact ⟨c :: cps, by rw [decAll_step hc, hd]; rfl⟩

end Eav
