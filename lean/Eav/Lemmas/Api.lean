import Eav.Api
/-!
# The API model (`Eav/Api.lean`) through lemmas

The policy switch of `eav_is_email` in closed form; what a successful `step` means, operation by operation; what the
6531 arm of `eav_setup` and a refused creation of the idnkit context do, whatever the ledger holds; induction over
`run`.  With these no proof has to unfold `policyArm`, `verdictOf`, `step` or `run`.
-/
namespace Eav

/-- class `c` has error code `EEAV_TLD_x = 26 + c` and bit `1 << (c + 1)`; nothing else has an arm -/
theorem policyArm_eq_ite (rc : Int) :
    policyArm rc = if 1 ≤ rc ∧ rc ≤ 9 then some (26 + rc.toNat, 2 ^ (rc.toNat + 1)) else none := by
  by_cases h : 1 ≤ rc ∧ rc ≤ 9
  · have : rc = 1 ∨ rc = 2 ∨ rc = 3 ∨ rc = 4 ∨ rc = 5 ∨ rc = 6 ∨ rc = 7 ∨ rc = 8 ∨ rc = 9 := by omega
    rcases this with rfl | rfl | rfl | rfl | rfl | rfl | rfl | rfl | rfl <;> rfl
  · have hne : ∀ k : Int, 1 ≤ k → k ≤ 9 → (rc == k) = false := fun k h1 h9 => by
      rw [beq_eq_false_iff_ne]; omega
    simp only [policyArm, if_neg h, hne, Int.reduceLE, Bool.false_eq_true, if_false]

theorem and_two_pow_ne_zero (k n : Nat) : (k &&& 2 ^ n != 0) = k.testBit n := by
  have : k &&& 2 ^ n = if k.testBit n then 2 ^ n else 0 := by
    apply Nat.eq_of_testBit_eq
    intro i
    by_cases hi : n = i
    · subst hi; cases h : k.testBit n <;> simp [h]
    · cases k.testBit n <;> simp [hi]
  rw [this]
  cases k.testBit n <;> simp

/-- the four arms of the policy: accepted as it is, refused by the validator, a TLD class judged by its bit, `abort ()` -/
theorem verdictOf_eq (k : Nat) (r : Result) : verdictOf k r =
    if r.rc = 0 then .ok (1, 0, none)
    else if r.rc < 0 then .ok (0, (-r.rc).toNat, if (-r.rc).toNat = E.IDN_ERROR then some r.idnRc else none)
    else if r.rc ≤ 9 then .ok (if k.testBit (r.rc.toNat + 1) then (1, 0, none) else (0, 26 + r.rc.toNat, none))
    else .error .abort := by
  unfold verdictOf
  by_cases h0 : r.rc = 0
  · simp only [h0, beq_self_eq_true, if_true]
  · by_cases hn : r.rc < 0
    · simp only [beq_iff_eq, h0, hn, if_false, if_true]
    · simp only [beq_iff_eq, h0, hn, if_false, policyArm_eq_ite]
      by_cases h9 : r.rc ≤ 9
      · rw [if_pos ⟨by omega, h9⟩, if_pos h9]
        simp only [and_two_pow_ne_zero]
        cases k.testBit (r.rc.toNat + 1) <;> rfl
      · rw [if_neg (fun h => h9 h.2), if_neg h9]

/-- the four ways `eav_is_email` ends: accepted as it is; refused with the validator's code (and the IDN library's own, if that is what
failed); a TLD class let through by its bit, or refused with the class's own code -/
theorem verdictOf_ok_cases {k : Nat} {r : Result} {ret : Int} {ec : Nat} {msg : Option Int} (h : verdictOf k r = .ok (ret, ec, msg)) :
    (r.rc = 0 ∧ ret = 1 ∧ ec = 0 ∧ msg = none) ∨
    (r.rc < 0 ∧ ret = 0 ∧ (ec : Int) = -r.rc ∧ msg = if ec = E.IDN_ERROR then some r.idnRc else none) ∨
    (1 ≤ r.rc ∧ r.rc ≤ 9 ∧ msg = none ∧ (ret = 1 ∧ ec = 0 ∨ ret = 0 ∧ (ec : Int) = 26 + r.rc)) := by
  rw [verdictOf_eq] at h
  by_cases h0 : r.rc = 0
  · rw [if_pos h0] at h; cases h; exact .inl ⟨h0, rfl, rfl, rfl⟩
  rw [if_neg h0] at h
  by_cases hn : r.rc < 0
  · rw [if_pos hn] at h; cases h; exact .inr (.inl ⟨hn, rfl, by omega, rfl⟩)
  rw [if_neg hn] at h
  by_cases h9 : r.rc ≤ 9
  · rw [if_pos h9] at h
    refine .inr (.inr ⟨by omega, h9, ?_⟩)
    cases hb : k.testBit (r.rc.toNat + 1) <;> rw [hb] at h <;> cases h
    · exact ⟨rfl, .inr ⟨rfl, by omega⟩⟩
    · exact ⟨rfl, .inl ⟨rfl, rfl⟩⟩
  · rw [if_neg h9] at h; cases h

/-- the policy faults only by reaching `abort ()`, and only on a code above the nine classes -/
theorem verdictOf_error_iff (k : Nat) (r : Result) (f : Fault) : verdictOf k r = .error f ↔ 9 < r.rc ∧ f = .abort := by
  rw [verdictOf_eq]
  by_cases h0 : r.rc = 0
  · rw [if_pos h0]; exact ⟨nofun, fun h => by omega⟩
  · by_cases hn : r.rc < 0
    · rw [if_neg h0, if_pos hn]; exact ⟨nofun, fun h => by omega⟩
    · by_cases h9 : r.rc ≤ 9
      · rw [if_neg h0, if_neg hn, if_pos h9]; exact ⟨nofun, fun h => by omega⟩
      · rw [if_neg h0, if_neg hn, if_neg h9]
        exact ⟨fun h => ⟨by omega, by cases h; rfl⟩, fun h => by rw [h.2]⟩

/-! ### what a successful `step` means, operation by operation -/

/-- the plain stores among the operations (`eav->rfc = …`, `eav->tld_check = …`, `eav->allow_tld = …`), as functions on the object -/
def Op.store : Op → Option (EavT → EavT)
  | .setRfc v => some fun e => { e with rfc := v }
  | .setTld t => some fun e => { e with tldCheck := t }
  | .setMask k => some fun e => { e with allowTld := k }
  | _ => none

section
variable {be : Backend} {b : Build} {st st' : State} {o : Out}

theorem step_store_iff {op : Op} {f : EavT → EavT} (hf : op.store = some f) :
    step be b st op = .ok (st', o) ↔ ∃ e, st.obj = some e ∧ st' = { st with obj := some (f e) } ∧ o = .unit := by
  cases op <;> cases hf <;> (cases h : st.obj <;> simp [step, h, eq_comm])

theorem step_setup_iff : step be b st .setup = .ok (st', o) ↔ ∃ rc, eavSetup be st = .ok (st', rc) ∧ o = .rc rc := by
  cases h : eavSetup be st with
  | error f => simp [step, h]
  | ok p => obtain ⟨s, rc⟩ := p; simp [step, h, and_assoc, eq_comm (a := o)]

theorem step_setupFail_iff {r : Int} :
    step be b st (.setupFail r) = .ok (st', o) ↔ ∃ rc, eavSetupFail be st r = .ok (st', rc) ∧ o = .rc rc := by
  cases h : eavSetupFail be st r with
  | error f => simp [step, h]
  | ok p => obtain ⟨s, rc⟩ := p; simp [step, h, and_assoc, eq_comm (a := o)]

theorem step_errstr_iff : step be b st .errstr = .ok (st', o) ↔ ∃ m, eavErrstr st = .ok m ∧ st' = st ∧ o = .msg m := by
  cases h : eavErrstr st <;> simp [step, h, eq_comm]

theorem step_free_iff : step be b st .free = .ok (st', o) ↔ eavFree be st = .ok st' ∧ o = .unit := by
  cases h : eavFree be st <;> simp [step, h, eq_comm]

/-- `eav_is_email` then `eav_errstr`: the observation is read off the object the call leaves -/
theorem step_isEmail_iff {a : List Nat} {c : Conv} : step be b st (.isEmail a c) = .ok (st', o) ↔
    ∃ ret m e r, eavIsEmail b (fun _ => c) st a = .ok (st', ret) ∧ eavErrstr st' = .ok m ∧
      st'.obj = some e ∧ e.result = some r ∧ o = .verdict ret e.errcode m r := by
  cases h : eavIsEmail b (fun _ => c) st a with
  | error f => simp [step, h]
  | ok p =>
    obtain ⟨s, ret⟩ := p
    simp only [step, h, Except.ok.injEq, Prod.mk.injEq]
    constructor
    · intro h1
      cases hm : eavErrstr s with
      | error f => simp [hm] at h1
      | ok m =>
        cases he : s.obj with
        | none => simp [hm, he] at h1
        | some e =>
          cases hr : e.result with
          | none => simp [hm, he, hr] at h1
          | some r =>
            simp only [hm, he, hr, Except.ok.injEq, Prod.mk.injEq] at h1
            obtain ⟨rfl, rfl⟩ := h1
            exact ⟨ret, m, e, r, ⟨rfl, rfl⟩, hm, he, hr, rfl⟩
    · rintro ⟨_, m, e, r, ⟨rfl, rfl⟩, hm, he, hr, rfl⟩
      simp only [hm, he, hr]

theorem eavErrstr_congr {s1 s2 : State} (h : s1.obj = s2.obj) : eavErrstr s1 = eavErrstr s2 := by
  unfold eavErrstr; rw [h]

/-- every operation but `eav_init` reads the object first (`Fault.uninit` before `eav_init`): where one returned, there was an object -/
theorem step_obj {op : Op} (h : step be b st op = .ok (st', o)) (hop : op ≠ .init) : ∃ e, st.obj = some e := by
  cases ho : st.obj with
  | some e => exact ⟨e, rfl⟩
  | none => cases op <;> simp [step, eavSetup, eavSetupFail, eavIsEmail, eavErrstr, eavFree, ho] at hop h

/-- the 6531 arm of `eav_setup` always returns 0; only idnkit, and only on an object not yet `initialized`, creates a context -/
theorem setup6531_ok (be : Backend) (st : State) (e : EavT) :
    ∃ st', setup6531 be st e = .ok (st', 0) ∧ st'.obj = some { e with utf8 := true, utf8Cb := true, initialized := true } ∧
      st'.liveResults = st.liveResults ∧ st'.freedResults = st.freedResults ∧
      st'.resconfLive = st.resconfLive + (if be = .idnkit ∧ e.initialized = false then 1 else 0) := by
  fun_cases setup6531 be st e
  case case1 hi => exact ⟨_, rfl, by rw [← hi], rfl, rfl, by simp [hi]⟩
  case case2 => exact ⟨_, rfl, rfl, rfl, rfl, by simp_all⟩
  case case3 => exact ⟨_, rfl, rfl, rfl, rfl, by simp_all⟩

/-- the one situation in which `init_idn` has a context to create, and so can fail -/
theorem eavSetupFail_eq {e : EavT} (r : Int) (hobj : st.obj = some e) : eavSetupFail be st r =
    if be = .idnkit ∧ e.rfc = 3 ∧ e.initialized = false then
      .ok ({ st with obj := some { e with idnmsg := some r } }, -(E.IDN_ERROR : Int))
    else eavSetup be st := by
  simp only [eavSetupFail, hobj, Bool.and_eq_true, beq_iff_eq, Bool.not_eq_true', and_assoc]

/-- a property that every successful operation of the history preserves holds at its end -/
theorem run_induction (P : State → Prop) : ∀ (ops : List Op) (st st' : State) (os : List Out),
    (∀ op ∈ ops, ∀ s s' o, P s → step be b s op = .ok (s', o) → P s') →
    P st → run be b st ops = .ok (st', os) → P st' := by
  intro ops st st' os hstep h0 h
  fun_induction run be b st ops generalizing st' os
  case case1 => cases h; exact h0
  case case4 st op ops s o hs s' os' hr ih =>        -- the step and the rest of the history both returned
    cases h
    exact ih _ _ (fun op' ho => hstep op' (List.mem_cons_of_mem _ ho)) (hstep op (List.mem_cons_self ..) st s o h0 hs) hr
  all_goals cases h

end

end Eav
