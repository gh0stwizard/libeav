import Eav.Basic
/-! Lemmas about the libc-primitive models (`toLower`, `lowerAll`, `strncaseeq`), names without capitals (`isLowerName`), and the
`dropLast` of a string whose last byte is known. -/
namespace Eav

theorem toLower_idem (c : Nat) : toLower (toLower c) = toLower c := by
  unfold toLower isUpper
  split <;> simp_all <;> omega

/-- `tolower` neither produces nor moves a byte below `'A'` -/
theorem toLower_eq_iff {c k : Nat} (hk : k < 65) : toLower c = k ↔ c = k := by
  unfold toLower
  by_cases h : isUpper c = true
  · simp only [h, if_true]
    simp only [isUpper, Bool.and_eq_true, decide_eq_true_eq] at h
    omega
  · simp only [h, Bool.false_eq_true, if_false]

theorem toLower_dot (c : Nat) : toLower c = 46 ↔ c = 46 := toLower_eq_iff (by decide)

theorem lowerAll_idem (s : List Nat) : lowerAll (lowerAll s) = lowerAll s := by
  simp [lowerAll, toLower_idem]

@[simp] theorem lowerAll_nil : lowerAll [] = [] := rfl
@[simp] theorem lowerAll_cons (c : Nat) (s : List Nat) : lowerAll (c :: s) = toLower c :: lowerAll s := rfl
@[simp] theorem lowerAll_length (s : List Nat) : (lowerAll s).length = s.length := by simp [lowerAll]

/-- comparing at least one position past the end of either string is comparing whole strings -/
theorem strncaseeq_full (a b : List Nat) (n : Nat) (h : a.length < n ∨ b.length < n) :
    strncaseeq a b n = (lowerAll a == lowerAll b) := by
  fun_induction strncaseeq a b n with
  | case1 => omega
  | case2 | case3 | case4 => simp
  | case5 a as b bs n ih => rw [ih (by simpa using h), Bool.eq_iff_iff]; simp

def isLowerName (s : List Nat) : Bool := s.all (fun c => !isUpper c)

theorem lowerAll_of_isLowerName {s : List Nat} (h : isLowerName s = true) : lowerAll s = s := by
  induction s with
  | nil => rfl
  | cons c cs ih =>
    simp [isLowerName] at h
    simp [toLower, h.1]
    exact ih (by simpa [isLowerName] using h.2)

theorem dropLast_append_of_getLast? (s : List Nat) (a : Nat) (h : s.getLast? = some a) : s.dropLast ++ [a] = s := by
  obtain ⟨l, rfl⟩ := List.getLast?_eq_some_iff.mp h
  rw [List.dropLast_concat]

theorem strncaseeq_take : ∀ (n : Nat) (a b : List Nat), strncaseeq a b n = true → n ≤ a.length → n ≤ b.length →
    lowerAll (a.take n) = lowerAll (b.take n)
  | 0, _, _, _, _, _ => by simp
  | n + 1, [], _, _, h, _ => by simp at h
  | n + 1, _ :: _, [], _, _, h => by simp at h
  | n + 1, x :: a, y :: b, h, ha, hb => by
    simp only [strncaseeq, Bool.and_eq_true, beq_iff_eq] at h
    simp only [List.take_succ_cons, lowerAll_cons, h.1]
    rw [strncaseeq_take n a b h.2 (by simpa using ha) (by simpa using hb)]

end Eav
