import Eav.Email
import Eav.Spec.Ip
import Eav.Lemmas.Str
/-!
Splitting a byte string at a separator: `Spec.splitOn c` and its instance `splitDots` (the labels of a domain),
`splitLast c` (the model of `strrchr`), each characterised once; and the pointer walk of `is_special_domain` (`upToDot`, `afterDot`, `countDots`,
`skipLabels`: `strchr` for the next dot) as an enumeration of `splitDots`.
-/
namespace Eav
open Eav.Spec

/-! ### `splitOn`, for any separator -/

theorem splitOn_ne_nil (c : Nat) (l : List Nat) : splitOn c l ≠ [] := by
  fun_cases splitOn c l <;> simp

/-- the form in which that is used: there is a first field -/
theorem splitOn_eq_cons (c : Nat) (l : List Nat) : ∃ w ws, splitOn c l = w :: ws :=
  List.exists_cons_of_ne_nil (splitOn_ne_nil c l)

theorem splitOn_sep (c : Nat) (xs : List Nat) : splitOn c (c :: xs) = [] :: splitOn c xs := by
  simp [splitOn]

theorem splitOn_cons_ne {c x : Nat} (xs : List Nat) (h : x ≠ c) :
    ∃ w ws, splitOn c xs = w :: ws ∧ splitOn c (x :: xs) = (x :: w) :: ws := by
  obtain ⟨w, ws, hs⟩ := splitOn_eq_cons c xs
  have : (x == c) = false := by simpa using h
  exact ⟨w, ws, hs, by simp [splitOn, this, hs]⟩

/-- `splitOn` cuts at the first separator; the facts below about a string and its fields are read off this view -/
theorem splitOn_view (c : Nat) : ∀ t : List Nat, (c ∉ t ∧ splitOn c t = [t]) ∨
    ∃ w t', t = w ++ c :: t' ∧ c ∉ w ∧ splitOn c t = w :: splitOn c t'
  | [] => .inl ⟨by simp, rfl⟩
  | x :: xs => by
    by_cases hx : x = c
    · subst hx; exact .inr ⟨[], xs, rfl, by simp, splitOn_sep ..⟩
    · obtain ⟨w, ws, hs, hs'⟩ := splitOn_cons_ne xs hx
      rcases splitOn_view c xs with ⟨hn, h1⟩ | ⟨w', t', rfl, hn, h1⟩
      · rw [h1] at hs; cases hs
        exact .inl ⟨by simp [hn, Ne.symm hx], hs'⟩
      · rw [h1] at hs; cases hs
        exact .inr ⟨x :: w, t', rfl, by simp [hn, Ne.symm hx], hs'⟩

theorem splitOn_no_sep (c : Nat) : ∀ (w : List Nat), c ∉ w → splitOn c w = [w] := by
  intro w h
  rcases splitOn_view c w with ⟨_, h1⟩ | ⟨w', t', rfl, _, _⟩
  · exact h1
  · exact absurd (by simp) h

/-- induction along the fields: a string without separator, or a first field, the separator and the rest -/
theorem splitOn_ind (c : Nat) {P : List Nat → Prop} (last : ∀ t, c ∉ t → splitOn c t = [t] → P t)
    (cut : ∀ w t', c ∉ w → splitOn c (w ++ c :: t') = w :: splitOn c t' → P t' → P (w ++ c :: t')) (t : List Nat) : P t := by
  rcases splitOn_view c t with ⟨hn, h1⟩ | ⟨w, t', rfl, hn, h1⟩
  · exact last t hn h1
  · exact cut w t' hn h1 (splitOn_ind c last cut t')
termination_by t.length
decreasing_by subst_vars; simp only [List.length_append, List.length_cons]; omega

theorem mem_splitOn (c : Nat) (t : List Nat) (x : Nat) (h : x ∈ t) : x = c ∨ ∃ w ∈ splitOn c t, x ∈ w := by
  induction t using splitOn_ind c with
  | last t _ h1 => exact .inr ⟨t, by simp [h1], h⟩
  | cut w t' _ h1 ih =>
    rw [h1]
    rcases List.mem_append.mp h with hw | hc
    · exact .inr ⟨w, by simp, hw⟩
    · rcases List.mem_cons.mp hc with rfl | ht
      · exact .inl rfl
      · exact (ih ht).imp_right fun ⟨w', hw', hx⟩ => ⟨w', by simp [hw'], hx⟩

theorem splitOn_length (c : Nat) (t : List Nat) :
    ((splitOn c t).map List.length).sum + (splitOn c t).length = t.length + 1 := by
  induction t using splitOn_ind c with
  | last t _ h1 => simp [h1]
  | cut w t' _ h1 ih => rw [h1]; simp; omega

/-- the fields of `a c b` are those of `a` followed by those of `b`, whether or not `a` contains `c` -/
theorem splitOn_append_sep (c : Nat) (a b : List Nat) : splitOn c (a ++ c :: b) = splitOn c a ++ splitOn c b := by
  induction a with
  | nil => simp [splitOn]
  | cons x a ih =>
    by_cases hx : x = c
    · subst hx; simp only [List.cons_append, splitOn_sep, ih]
    · obtain ⟨l, ls, h1, h2⟩ := splitOn_cons_ne a hx
      obtain ⟨l', ls', h1', h2'⟩ := splitOn_cons_ne (a ++ c :: b) hx
      rw [ih, h1] at h1'
      simp only [List.cons_append, List.cons.injEq] at h1'
      rw [List.cons_append, h2', h2, ← h1'.1, ← h1'.2, List.cons_append]

theorem splitOn_append (c : Nat) (w rest : List Nat) (h : c ∉ w) : splitOn c (w ++ c :: rest) = w :: splitOn c rest := by
  rw [splitOn_append_sep, splitOn_no_sep c w h]; rfl

/-- a byte map that neither creates nor removes separators commutes with the splitting -/
theorem splitOn_map (c : Nat) (f : Nat → Nat) (hf : ∀ x, f x = c ↔ x = c) (s : List Nat) :
    splitOn c (s.map f) = (splitOn c s).map (List.map f) := by
  induction s with
  | nil => rfl
  | cons x xs ih =>
    by_cases hx : x = c
    · subst hx; simp only [List.map_cons, (hf x).mpr rfl, splitOn_sep, ih, List.map_nil]
    · obtain ⟨l, ls, h1, h2⟩ := splitOn_cons_ne xs hx
      obtain ⟨l', ls', h1', h2'⟩ := splitOn_cons_ne (x := f x) (xs.map f) (fun h => hx ((hf x).mp h))
      rw [ih, h1] at h1'
      simp only [List.map_cons, List.cons.injEq] at h1'
      rw [List.map_cons, h2', h2, ← h1'.1, ← h1'.2, List.map_cons, List.map_cons]

/-! ### `splitLast` -/

theorem splitLast_eq_none_iff (c : Nat) : ∀ s : List Nat, splitLast c s = none ↔ c ∉ s
  | [] => by simp [splitLast]
  | x :: xs => by
    have ih := splitLast_eq_none_iff c xs
    unfold splitLast
    cases h : splitLast c xs with
    | some p => simp [show c ∈ xs from Decidable.of_not_not fun hn => by simp [ih.2 hn] at h]
    | none =>
      by_cases hx : x = c
      · simp [hx]
      · simp [hx, ih.1 h, Ne.symm hx]

/-- `strrchr`: the split is at the LAST occurrence -/
theorem splitLast_append (c : Nat) (d : List Nat) (h : c ∉ d) : ∀ l : List Nat, splitLast c (l ++ c :: d) = some (l, d)
  | [] => by simp [splitLast, (splitLast_eq_none_iff c d).2 h]
  | x :: l => by simp [splitLast, splitLast_append c d h l]

theorem splitLast_eq_some_iff (c : Nat) (s l d : List Nat) : splitLast c s = some (l, d) ↔ (s = l ++ c :: d ∧ c ∉ d) := by
  refine ⟨fun h => ?_, fun ⟨hs, hd⟩ => hs ▸ splitLast_append c d hd l⟩
  fun_induction splitLast c s generalizing l with
  | case1 => cases h
  | case2 x xs l' r hrec ih =>
    cases h
    obtain ⟨rfl, hd⟩ := ih l' hrec
    exact ⟨rfl, hd⟩
  | case3 x xs hrec hx =>
    cases h
    exact ⟨by rw [eq_of_beq hx]; rfl, (splitLast_eq_none_iff c _).1 hrec⟩
  | case4 => cases h

theorem last_split_unique {c : Nat} {l d l' d' : List Nat} (e : l ++ c :: d = l' ++ c :: d') (h : c ∉ d) (h' : c ∉ d') :
    l = l' ∧ d = d' := by
  have := splitLast_append c d h l
  rw [e, splitLast_append c d' h'] at this
  cases this; exact ⟨rfl, rfl⟩

theorem splitLast_map (c : Nat) (f : Nat → Nat) (hf : ∀ x, f x = c ↔ x = c) : ∀ s : List Nat,
    splitLast c (s.map f) = (splitLast c s).map fun p => (p.1.map f, p.2.map f)
  | [] => rfl
  | x :: xs => by
    have hx : (f x == c) = (x == c) := by rw [Bool.eq_iff_iff, beq_iff_eq, beq_iff_eq]; exact hf x
    simp only [List.map_cons, splitLast, splitLast_map c f hf xs, hx]
    cases splitLast c xs with
    | some p => rfl
    | none => by_cases hx : (x == c) = true <;> simp [hx]

/-! ### `splitDots` is `splitOn 46` -/

theorem splitDots_eq_splitOn : splitDots = splitOn 46 := by
  funext s
  induction s with
  | nil => rfl
  | cons c cs ih => simp only [splitDots, splitOn, ih]; rfl

theorem splitDots_ne_nil (cs : List Nat) : splitDots cs ≠ [] := splitDots_eq_splitOn ▸ splitOn_ne_nil 46 cs

theorem splitDots_eq_cons (cs : List Nat) : ∃ l ls, splitDots cs = l :: ls := splitDots_eq_splitOn ▸ splitOn_eq_cons 46 cs

theorem splitDots_dot (cs : List Nat) : splitDots (46 :: cs) = [] :: splitDots cs := splitDots_eq_splitOn ▸ splitOn_sep 46 cs

theorem splitDots_cons_ne {c : Nat} {cs : List Nat} (h : c ≠ 46) :
    ∃ l ls, splitDots cs = l :: ls ∧ splitDots (c :: cs) = (c :: l) :: ls := splitDots_eq_splitOn ▸ splitOn_cons_ne cs h

theorem splitDots_nodot {l : List Nat} (h : 46 ∉ l) : splitDots l = [l] := splitDots_eq_splitOn ▸ splitOn_no_sep 46 l h

/-- the labels of `a.b` are those of `a` followed by those of `b`, whether or not `a` has dots -/
theorem splitDots_append_dot (a b : List Nat) : splitDots (a ++ 46 :: b) = splitDots a ++ splitDots b :=
  splitDots_eq_splitOn ▸ splitOn_append_sep 46 a b

theorem splitDots_lowerAll (s : List Nat) : splitDots (lowerAll s) = (splitDots s).map lowerAll :=
  splitDots_eq_splitOn ▸ splitOn_map 46 toLower toLower_dot s

/-- a trailing dot means an empty last label -/
theorem nil_mem_splitDots_of_root {s : List Nat} (h : s.getLast? = some 46) : [] ∈ splitDots s := by
  rw [← dropLast_append_of_getLast? s 46 h, splitDots_append_dot]
  simp [splitDots]

/-! ### the `strchr` walk -/

theorem upToDot_dot (cs : List Nat) : upToDot (46 :: cs) = [] := by simp [upToDot]
theorem upToDot_cons {c : Nat} (cs : List Nat) (h : c ≠ 46) : upToDot (c :: cs) = c :: upToDot cs := by
  simp [upToDot, h]
theorem afterDot_dot (cs : List Nat) : afterDot (46 :: cs) = some cs := by simp [afterDot]
theorem afterDot_cons {c : Nat} (cs : List Nat) (h : c ≠ 46) : afterDot (c :: cs) = afterDot cs := by
  simp [afterDot, h]

theorem take_upToDot (s : List Nat) : s.take (upToDot s).length = upToDot s := by
  induction s with
  | nil => rfl
  | cons c cs ih =>
    by_cases hc : c = 46
    · subst hc; simp [upToDot_dot]
    · rw [upToDot_cons cs hc, List.length_cons, List.take_succ_cons, ih]

/-- `strchr` found a dot: the string is the bytes before it, the dot, the rest -/
theorem eq_of_afterDot_some {s r : List Nat} (h : afterDot s = some r) : s = upToDot s ++ 46 :: r := by
  induction s with
  | nil => simp [afterDot] at h
  | cons c cs ih =>
    by_cases hc : c = 46
    · subst hc; rw [afterDot_dot] at h; cases h; simp [upToDot_dot]
    · rw [afterDot_cons cs hc] at h; rw [upToDot_cons cs hc, List.cons_append, ← ih h]

/-- `splitDots` is what walking with `strchr` enumerates -/
theorem splitDots_walk (s : List Nat) :
    splitDots s = upToDot s :: (match afterDot s with | none => [] | some r => splitDots r) := by
  induction s with
  | nil => rfl
  | cons c cs ih =>
    by_cases hc : c = 46
    · subst hc; simp only [splitDots_dot, upToDot_dot, afterDot_dot]
    · obtain ⟨l, ls, h1, h2⟩ := splitDots_cons_ne (cs := cs) hc
      rw [ih] at h1
      simp only [List.cons.injEq] at h1
      rw [h2, upToDot_cons cs hc, afterDot_cons cs hc, h1.1, h1.2]

theorem length_splitDots (s : List Nat) : (splitDots s).length = countDots s + 1 := by
  induction s with
  | nil => rfl
  | cons c cs ih =>
    by_cases hc : c = 46
    · subst hc; simp [splitDots_dot, countDots, ih]
    · obtain ⟨l, ls, h1, h2⟩ := splitDots_cons_ne (cs := cs) hc
      simp [h2, countDots, hc, ← ih, h1]

theorem upToDot_of_splitDots {s l : List Nat} {ls : List (List Nat)} (h : splitDots s = l :: ls) : upToDot s = l := by
  rw [splitDots_walk] at h; exact (List.cons.inj h).1

theorem afterDot_of_splitDots {s a b : List Nat} {ls : List (List Nat)} (h : splitDots s = a :: b :: ls) :
    ∃ r, afterDot s = some r ∧ splitDots r = b :: ls := by
  rw [splitDots_walk] at h
  cases hr : afterDot s with
  | none => rw [hr] at h; simp at h
  | some r => rw [hr] at h; exact ⟨r, rfl, (List.cons.inj h).2⟩

theorem countDots_append_dot (a b : List Nat) : countDots (a ++ 46 :: b) = countDots a + countDots b + 1 := by
  have := length_splitDots (a ++ 46 :: b)
  rw [splitDots_append_dot, List.length_append, length_splitDots, length_splitDots] at this
  omega

theorem countDots_lowerAll (x : List Nat) : countDots (lowerAll x) = countDots x := by
  have := length_splitDots (lowerAll x)
  rw [splitDots_lowerAll, List.length_map, length_splitDots] at this
  omega

theorem splitDots_of_countDots_zero {s : List Nat} (h : countDots s = 0) : splitDots s = [s] := by
  have hl := length_splitDots s
  rw [splitDots_eq_splitOn] at hl ⊢
  rcases splitOn_view 46 s with ⟨_, h1⟩ | ⟨w, t', _, _, h1⟩
  · exact h1
  · rw [h1, List.length_cons, h] at hl
    exact absurd (List.length_eq_zero_iff.mp (by omega)) (splitOn_ne_nil 46 t')

theorem skipLabels_succ (n : Nat) (cp : List Nat) (h : n + 1 ≥ 2) :
    skipLabels (n + 1) cp = (afterDot cp).bind (skipLabels n) := by
  simp [skipLabels, h]

/-- `while (count >= 2) { cp = strchr (cp, '.') + 1; count--; }` started with `count = n + 1` skips `n` labels
(if there are that many dots) -/
theorem skipLabels_drop : ∀ (n : Nat) (s : List Nat), n < (splitDots s).length →
    ∃ cp, skipLabels (n + 1) s = some cp ∧ splitDots cp = (splitDots s).drop n
  | 0, s, _ => ⟨s, rfl, rfl⟩
  | n + 1, s, h => by
    rw [splitDots_walk s] at h ⊢
    rw [skipLabels_succ (n + 1) s (Nat.le_add_left 2 n)]
    cases hr : afterDot s with
    | none => rw [hr] at h; exact absurd (Nat.lt_of_succ_lt_succ h) (Nat.not_lt_zero n)
    | some r => rw [hr] at h; exact skipLabels_drop n r (Nat.lt_of_succ_lt_succ h)

end Eav
