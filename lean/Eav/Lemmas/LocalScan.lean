import Eav.Lemmas.Scan
import Eav.Lemmas.LocalGrammar
/-!
# The scanners accept exactly what the recogniser `Spec.runFrom` accepts

One simulation for the four modes (default build): the scanner's variables `(cp[-1], quote, qpair)` determine
the recogniser's state.  The scanner reads characters, the recogniser symbols: in the ASCII modes a symbol is the
byte, in mode 6531 it is the character with every non-ASCII character collapsed to 128 (`Spec.collapse`).
-/
namespace Eav
open Spec Spec.St

/-- the scanner of a mode, default build -/
def Scan.ofL (e : Nat) : LMode → Scan
  | .m822 => .m822 e
  | .m5321 => .m5321
  | .m5322 => .m5322
  | .m6531 => .m6531 {}

/-- what the recogniser reads when the scanner reads `inp` -/
def symsOf (m : LMode) (inp : List Nat) : Option (List Nat) :=
  if m = .m6531 then (decAll inp).map collapse else some inp

/-- The correspondence of states.  `hd` is the first byte of the rest of the input: outside quotes the scanner has already looked
at it (behind a dot, behind a closing quote).  Inside quotes only the RFC 5322 blank rule looks at the byte before the current one. -/
inductive SInv (m : LMode) : Option Nat → Bool → Bool → St → Option Nat → Prop
  | start {hd} : hd ≠ none → SInv m none false false wordStart hd
  | afterDot {hd} : hd ≠ none → hd ≠ some 46 → SInv m (some 46) false false wordStart hd
  | afterQuote {hd} : (hd = none ∨ hd = some 46) → SInv m (some 34) false false afterQuote hd
  | inAtom {p hd} : atext m p = true → SInv m (some p) false false inAtom hd
  | inQuote {prev p hd} : (m = .m5322 → prev = some p) → SInv m prev true false (inQuote p) hd
  | inPair {prev hd} : SInv m prev true true inPair hd

theorem runFrom_wordStart_dot (m : LMode) (cs : List Nat) : runFrom m wordStart (46 :: cs) = false :=
  runFrom_cons_false fun _ h => by cases h with | first ha => exact (atext_ne ha).2.1 rfl

theorem not_atext_special {m : LMode} {c : Nat} (h : specials.contains c = true) : atext m c = false := by
  simp [specials] at h
  rcases h with h | h | h | h | h | h | h | h | h | h | h | h <;> subst h <;> cases m <;> decide

theorem special_ne {c : Nat} (h : specials.contains c = true) : c ≠ 34 ∧ c ≠ 46 := by
  simp [specials] at h; omega

theorem atext_of_plain {m : LMode} {c : Nat} (h127 : c ≤ 127) (hctl : isCntrl c = false)
    (h34 : c ≠ 34) (h46 : c ≠ 46) (hs : specials.contains c = false) : atext m c = true := by
  simp [isCntrl] at hctl
  simp [specials] at hs
  simp [atext, atextAscii, special]
  left
  omega

/-- outside quotes the recogniser reads 34 at the start of a word only, 46 behind a word only, and otherwise atom characters -/
theorem trans_unquoted {m : LMode} {prev : Option Nat} {st st' : St} {hd nx : Option Nat} {c : Nat} (hinv : SInv m prev false false st hd)
    (h : Trans m st c nx st') :
    (c = 34 ∧ st = wordStart) ∨ (c = 46 ∧ st ≠ wordStart) ∨ (atext m c = true ∧ st ≠ afterQuote) := by
  cases hinv <;> cases h <;> simp_all

/-- the symbol a character stands for -/
def symOf (m : LMode) (c : Nat) : Nat := if m = .m6531 ∧ c ≥ 128 then 128 else c

theorem ofL_utf8 (e : Nat) (m : LMode) : (Scan.ofL e m).utf8 = decide (m = .m6531) := by cases m <;> rfl
theorem ofL_ctlAll (e : Nat) (m : LMode) : (Scan.ofL e m).ctlAll = decide (m = .m5321 ∨ m = .m6531) := by cases m <;> rfl
theorem ofL_fold (e : Nat) (m : LMode) : (Scan.ofL e m).fold = decide (m = .m822) := by cases m <;> rfl
theorem ofL_blank (e : Nat) (m : LMode) : (Scan.ofL e m).blank = decide (m = .m5322) := by cases m <;> rfl
theorem ofL_extra (e : Nat) (m : LMode) : (Scan.ofL e m).extra = [] := by cases m <;> rfl

theorem symsOf_bytes {m : LMode} (hm : m ≠ .m6531) (inp : List Nat) : symsOf m inp = some inp := by simp [symsOf, hm]

theorem collapse_cons (cp : Nat) (cps : List Nat) : collapse (cp :: cps) = symOf .m6531 cp :: collapse cps := by
  simp [collapse, symOf]

/-- the symbols follow the characters: at the end of a readable input there are none left, the decoder does not fail on it, and
behind a character `c` come the symbol of `c` and the symbols of the rest -/
theorem symsOf_next {m : LMode} {e : Nat} {inp S : List Nat} (hn : m ≠ .m6531 → NulFree inp) (hS : symsOf m inp = some S) :
    match nextCh (Scan.ofL e m).utf8 inp with
    | .fin => inp = [] ∧ S = []
    | .err => False
    | .ch c rest => ∃ S', symsOf m rest = some S' ∧ S = symOf m c :: S' := by
  by_cases hm : m = .m6531
  · subst hm
    simp only [symsOf, if_true, Option.map_eq_some_iff] at hS ⊢
    obtain ⟨cps, hd, rfl⟩ := hS
    simp only [ofL_utf8, decide_true, nextCh, if_true]
    cases h : decodeNext inp with
    | fin => rw [decAll_fin h] at hd; cases hd; exact ⟨decodeNext_fin h, rfl⟩
    | err => rw [decAll_err h] at hd; cases hd
    | ch c rest =>
      obtain ⟨l, hr, rfl⟩ := Option.map_eq_some_iff.mp (decAll_step h ▸ hd)
      exact ⟨_, ⟨l, hr, rfl⟩, collapse_cons c l⟩
  · rw [symsOf_bytes hm] at hS; cases hS
    rw [show (Scan.ofL e m).utf8 = false by simp [ofL_utf8, hm]]
    cases inp with
    | nil => exact ⟨rfl, rfl⟩
    | cons c cs =>
      have h0 : (c == 0) = false := by simpa using hn hm c (by simp)
      simp only [nextCh, h0, Bool.false_eq_true, if_false]
      exact ⟨cs, symsOf_bytes hm cs, by simp [symOf, hm]⟩

/-- emptiness and "starts with a dot" are all the scanner asks of the rest of the input; the symbols answer alike -/
theorem heads_of_symsOf {m : LMode} {rest S : List Nat} (h : symsOf m rest = some S) :
    rest.isEmpty = S.isEmpty ∧ (rest.head? == some 46) = (S.head? == some 46) := by
  by_cases hm : m = .m6531
  · subst hm
    simp only [symsOf, if_true, Option.map_eq_some_iff] at h
    obtain ⟨cps, hd, rfl⟩ := h
    cases hn : decodeNext rest with
    | fin => rw [decAll_fin hn] at hd; cases hd; rw [decodeNext_fin hn]; exact ⟨rfl, rfl⟩
    | err => rw [decAll_err hn] at hd; cases hd
    | ch cp r =>
      obtain ⟨l, hr, rfl⟩ := Option.map_eq_some_iff.mp (decAll_step hn ▸ hd)
      rw [collapse_cons]
      -- the first byte of a character is the character itself, or a byte above 127 where the symbol is 128
      obtain ⟨L, hL, hsym⟩ : ∃ L, rest.head? = some L ∧ ((L == 46) = (symOf .m6531 cp == 46)) := by
        by_cases hlt : cp < 128
        · exact ⟨cp, (decodeNext_head hn).1 hlt, by rw [symOf, if_neg (by omega)]⟩
        · obtain ⟨L, hL, hge⟩ := (decodeNext_head hn).2 (by omega)
          exact ⟨L, hL, by rw [symOf, if_pos ⟨rfl, by omega⟩]; simp; omega⟩
      cases rest with
      | nil => cases hL
      | cons x xs => cases hL; exact ⟨rfl, by simpa using hsym⟩
  · rw [symsOf_bytes hm] at h; cases h; exact ⟨rfl, rfl⟩

/-- the ASCII modes have no transition on a byte above 127 -/
theorem trans_ascii {m : LMode} {st st' : St} {c : Nat} {nx : Option Nat} (hm : m ≠ .m6531) (h : Trans m st c nx st') : c ≤ 127 := by
  cases h with
  | first h | atom h => cases m <;> simp [atext, atextAscii] at hm h ⊢ <;> omega
  | qtext h _ | pair h => cases m <;> simp [okItem, ascii, printable] at hm h ⊢ <;> omega
  | wsp _ hw => omega
  | _ => decide

/-- a control character is read only inside quotes, and only in modes 822 and 5322 -/
theorem trans_ctl {m : LMode} {st st' : St} {c : Nat} {nx : Option Nat} (hctl : isCntrl c = true) (h : Trans m st c nx st') :
    (m = .m822 ∨ m = .m5322) ∧ st ≠ wordStart ∧ st ≠ inAtom ∧ st ≠ afterQuote := by
  have hc : c < 32 ∨ c = 127 := by simpa [isCntrl] using hctl
  cases h with
  | first h | atom h => cases m <;> simp [atext, atextAscii] at h <;> omega
  | qtext h _ | pair h => cases m <;> simp [okItem, printable] at h ⊢ <;> omega
  | cr hm | lf hm | wsp hm _ => simp [hm]
  | _ => omega

theorem locFin_zero (q : Bool) : locFin q = 0 ↔ q = false := by
  cases q <;> simp [locFin]

/-- at the end of the input the scanner's `quote` flag is the recogniser's verdict -/
theorem runFrom_nil_of_inv {m : LMode} {prev : Option Nat} {quote qpair : Bool} {st : St}
    (h : SInv m prev quote qpair st none) : runFrom m st [] = !quote := by
  cases h with
  | start h | afterDot h _ => exact absurd rfl h
  | _ => rfl

/-- the byte lists of the model are the predicates of the specification -/
theorem wsq_list (p : Nat) : Eav.wsq.contains p = Spec.wsq p := by
  simp [Eav.wsq, Spec.wsq]
  rw [Bool.eq_iff_iff]; simp; omega

theorem blanks_list (p : Nat) : Eav.blanks.contains p = Spec.blank p := by
  simp [Eav.blanks, Spec.blank]
  rw [Bool.eq_iff_iff]; simp; omega

/-! ### the scanner's step, by state -/

section
variable (k : Scan) (prev first : Option Nat) (quote qpair : Bool) (c : Nat) (rest : List Nat)

theorem scanStep_high (h : c > 127) : scanStep k prev first quote qpair c rest =
    if !k.utf8 || qpair then .ret (-(E.LPART_NOT_ASCII : Int)) else .go first quote qpair 0 := by
  simp only [scanStep, h, if_true]

/-- outside quotes a control character is refused by the first test or by the second: `ctlAll` only says which -/
theorem scanStep_unq (h : c ≤ 127) : scanStep k prev first false false c rest =
    if isCntrl c then .ret (-(E.LPART_CTRL_CHAR : Int))
    else match unquotedStep k.extra prev c rest with
      | .error e => .ret e
      | .ok q => .go first q false 0 := by
  have h : ¬ c > 127 := by omega
  unfold scanStep
  cases unquotedStep k.extra prev c rest <;> cases k.ctlAll <;> cases isCntrl c <;> simp [h]

theorem scanStep_pair (h : c ≤ 127) : scanStep k prev first true true c rest =
    if k.ctlAll && isCntrl c then .ret (-(E.LPART_CTRL_CHAR : Int)) else .go first true false 0 := by
  have h : ¬ c > 127 := by omega
  simp [scanStep, h]

end

/-! ### one step of the scanner against the recogniser -/

/-- What `step_sim` says of a step of the scanner taken in a state that corresponds to `st`, on a character with symbol `sym`;
`rest` and `S` are what the two have left to read.  A return means that the recogniser rejects; otherwise both go on, in states
that correspond again (behind the same number of bytes: only folding skips any). -/
def Sim (m : LMode) (st : St) (sym : Nat) (rest S : List Nat) : Act → Prop :=
  Act.All (fun _ => runFrom m st (sym :: S) = false)
    (fun p q qp n => ∃ st', runFrom m st (sym :: S) = runFrom m st' (S.drop n) ∧
      SInv m p q qp st' (rest.drop n).head? ∧ symsOf m (rest.drop n) = some (S.drop n))

section
variable {m : LMode} {e : Nat} {prev : Option Nat} {st st' : St} {c sym : Nat} {rest S : List Nat}

/-- the recogniser takes a transition, the scanner goes on … -/
theorem Sim.go {p : Option Nat} {q qp : Bool} (ht : Trans m st sym S.head? st') (hi : SInv m p q qp st' rest.head?)
    (hS : symsOf m rest = some S) : Sim m st sym rest S (.go p q qp 0) :=
  ⟨st', runFrom_cons_of ht, hi, hS⟩

/-- … or it has none, and the scanner returns -/
theorem Sim.stop {r : Int} (h : ∀ st', ¬ Trans m st sym S.head? st') : Sim m st sym rest S (.ret r) :=
  runFrom_cons_false h

/-- the scanner's test in front of a quoted character is the specification's character class -/
theorem okPair_of (hle : c ≤ 127) (h0 : m ≠ .m6531 → c ≠ 0) (hctl : ((Scan.ofL e m).ctlAll && isCntrl c) = false) :
    okItem m (.pair c) = true := by
  cases m <;> simp [okItem, ascii, printable, Scan.ofL, Scan.m5321, Scan.m6531, isCntrl] at h0 hctl ⊢ <;> omega

theorem okCh_of (hle : c ≤ 127) (h0 : m ≠ .m6531 → c ≠ 0) (hctl : ((Scan.ofL e m).ctlAll && isCntrl c) = false)
    (h34 : c ≠ 34) (h92 : c ≠ 92) (h13 : m = .m822 → c ≠ 13) : okItem m (.ch c) = true := by
  cases m <;> simp [okItem, ascii, printable, Scan.ofL, Scan.m5321, Scan.m6531, isCntrl, h34, h92] at h0 hctl h13 ⊢ <;> omega

/-- a character above 127: refused by the byte-reading modes; in mode 6531 one more atom or quoted-text symbol, but never
behind a backslash.  `first` is the first byte of the character. -/
theorem sim_high {first : Option Nat} {quote qpair : Bool} (hhi : c > 127) (hfirst : m = .m6531 → ∃ L, first = some L ∧ L ≥ 128)
    (hinv : SInv m prev quote qpair st first) (hS : symsOf m rest = some S) :
    Sim m st (symOf m c) rest S (scanStep (.ofL e m) prev first quote qpair c rest) := by
  rw [scanStep_high _ _ _ _ _ _ _ hhi, ofL_utf8]
  by_cases hm : m = .m6531
  · subst hm
    obtain ⟨L, rfl, hL⟩ := hfirst rfl
    have haL : atext .m6531 L = true := by simp [atext]; omega
    rw [show symOf .m6531 c = 128 by simp [symOf]; omega]
    cases hinv <;> simp only [decide_true, Bool.not_true, Bool.false_or, Bool.false_eq_true, if_false, if_true]
    case start | afterDot => exact .go (.first (by decide)) (.inAtom haL) hS
    case afterQuote hh => rcases hh with hh | hh <;> simp at hh; omega
    case inAtom => exact .go (.atom (by decide)) (.inAtom haL) hS
    case inQuote => exact .go (.qtext (by decide) (blocked_of_ne (by decide) ..)) (.inQuote nofun) hS
    case inPair => exact .stop fun _ h => by cases h with | pair h => exact absurd h (by decide)
  · rw [show symOf m c = c by simp [symOf, hm]]
    simp only [hm, decide_false, Bool.not_false, Bool.true_or, if_true]
    exact .stop fun _ h => absurd (trans_ascii hm h) (by omega)

/-- an ASCII character outside quotes -/
theorem sim_unq (hle : c ≤ 127) (hinv : SInv m prev false false st (some c)) (hS : symsOf m rest = some S) :
    Sim m st c rest S (scanStep (.ofL e m) prev (some c) false false c rest) := by
  rw [scanStep_unq _ _ _ _ _ hle, ofL_extra]
  by_cases hctl : isCntrl c = true
  · rw [if_pos hctl]
    exact .stop fun _ h => by have := (trans_ctl hctl h).2; cases hinv <;> simp at this
  rw [if_neg hctl]
  obtain ⟨hE, hD⟩ := heads_of_symsOf hS
  unfold unquotedStep
  by_cases h34 : c = 34
  · subst h34
    simp only [beq_self_eq_true, if_true]
    cases hinv with
    | start _ | afterDot _ _ => exact .go .quote (.inQuote fun _ => rfl) hS
    | afterQuote hh => simp at hh
    | @inAtom p _ hp =>
      simp only [show (some p == none || some p == some 46) = false by simpa using (atext_ne hp).2.1, Bool.false_eq_true, if_false]
      exact .stop fun _ h => by cases h with | atom ha => exact (atext_ne ha).1 rfl
  have h34' : (c == 34) = false := by simpa using h34
  simp only [h34', Bool.false_eq_true, if_false]
  by_cases h46 : c = 46
  · subst h46
    simp only [beq_self_eq_true, if_true]
    -- a dot is read at the start of a word (and refused), or behind a quoted string or an atom
    have hst : prev = none ∧ st = wordStart ∨ ∃ p, prev = some p ∧ ∀ nx, Trans m st 46 nx wordStart := by
      cases hinv with
      | start _ => exact .inl ⟨rfl, rfl⟩
      | afterDot _ hh => simp at hh
      | afterQuote _ => exact .inr ⟨34, rfl, fun _ => .dotQ⟩
      | @inAtom p _ _ => exact .inr ⟨p, rfl, fun _ => .dot⟩
    rcases hst with ⟨rfl, rfl⟩ | ⟨p, rfl, hstep⟩
    · exact runFrom_wordStart_dot m S
    · -- the scanner looks ahead: a dot at the end or in front of another dot is refused at once, by the recogniser one symbol later
      have hrun : runFrom m st (46 :: S) = runFrom m wordStart S := runFrom_cons_of (hstep _)
      cases S with
      | nil =>
        have : rest.isEmpty = true := by simpa using hE
        simp only [this, Bool.or_true, if_true]
        exact hrun.trans rfl
      | cons d ds =>
        have hRe : rest.isEmpty = false := by simpa using hE
        have hRd : (rest.head? == some 46) = (d == 46) := by simpa using hD
        by_cases hd : d = 46
        · subst hd
          simp only [hRe, hRd, Bool.or_false, beq_self_eq_true, if_true]
          exact hrun.trans (runFrom_wordStart_dot m ds)
        · have hd' : (d == 46) = false := by simpa using hd
          simp only [hRe, hRd, hd', Bool.or_false, Bool.false_eq_true, if_false, beq_iff_eq, reduceCtorEq]
          refine .go (hstep _) (.afterDot ?_ ?_) hS
          · cases rest <;> simp_all
          · intro e; rw [e] at hRd; simp at hRd; exact hd hRd.symm.symm
  have h46' : (c == 46) = false := by simpa using h46
  simp only [h46', Bool.false_eq_true, if_false]
  by_cases hs : specials.contains c = true
  · simp only [hs, List.contains_nil, Bool.or_false, if_true]
    refine .stop fun _ h => ?_
    rcases trans_unquoted hinv h with ⟨h, _⟩ | ⟨h, _⟩ | ⟨h, _⟩
    · exact h34 h
    · exact h46 h
    · rw [not_atext_special hs] at h; cases h
  · have ha : atext m c = true := atext_of_plain hle (by simpa using hctl) h34 h46 (by simpa using hs)
    simp only [hs, List.contains_nil, Bool.or_false, Bool.false_eq_true, if_false]
    cases hinv with
    | start _ | afterDot _ _ => exact .go (.first ha) (.inAtom ha) hS
    | afterQuote hcl' => simp at hcl'; exact absurd hcl' h46
    | inAtom _ => exact .go (.atom ha) (.inAtom ha) hS

/-- where `ctlAll` is set (modes 5321 and 6531) no state reads a control character -/
theorem no_trans_ctlAll {nx : Option Nat} (hctl : ((Scan.ofL e m).ctlAll && isCntrl c) = true) (h : Trans m st c nx st') : False := by
  simp only [ofL_ctlAll, Bool.and_eq_true, decide_eq_true_eq] at hctl
  have := (trans_ctl hctl.2 h).1
  rcases hctl.1 with h' | h' <;> simp [h'] at this

/-- an ASCII character behind a backslash -/
theorem sim_pair (hle : c ≤ 127) (h0 : m ≠ .m6531 → c ≠ 0) (hS : symsOf m rest = some S) :
    Sim m inPair c rest S (scanStep (.ofL e m) prev (some c) true true c rest) := by
  rw [scanStep_pair _ _ _ _ _ hle]
  by_cases hctl : ((Scan.ofL e m).ctlAll && isCntrl c) = true
  · rw [if_pos hctl]
    exact .stop fun _ => no_trans_ctlAll hctl
  · rw [if_neg hctl]
    exact .go (.pair (okPair_of (e := e) hle h0 (by simpa using hctl))) (.inQuote fun _ => rfl) hS

/-- an ASCII character inside quotes -/
theorem sim_quoted {p : Nat} (hle : c ≤ 127) (h0 : m ≠ .m6531 → c ≠ 0) (hp : m = .m5322 → prev = some p)
    (hS : symsOf m rest = some S) :
    Sim m (inQuote p) c rest S (scanStep (.ofL e m) prev (some c) true false c rest) := by
  have hhi : ¬ c > 127 := by omega
  unfold scanStep
  simp only [hhi, if_false, Bool.not_true, Bool.false_eq_true, ofL_fold, ofL_blank, ofL_utf8]
  by_cases hctl : ((Scan.ofL e m).ctlAll && isCntrl c) = true
  · simp only [hctl, if_true]
    exact .stop fun _ => no_trans_ctlAll hctl
  simp only [hctl, Bool.false_eq_true, if_false]
  have hctl : ((Scan.ofL e m).ctlAll && isCntrl c) = false := by simpa using hctl
  by_cases h34 : c = 34
  · subst h34
    simp only [beq_self_eq_true, if_true]
    have hst : Trans m (inQuote p) 34 S.head? afterQuote := .close
    -- behind the closing quote the scanner looks for the end or a dot; the recogniser finds out one symbol later
    have hco : closeOk rest = closeOk S := by
      obtain ⟨hE, hD⟩ := heads_of_symsOf hS
      simp only [closeOk, hE, hD]
    by_cases hcl : closeOk rest = true
    · simp only [hcl, if_true]
      refine .go hst (.afterQuote ?_) hS
      cases rest with
      | nil => exact .inl rfl
      | cons d ds => right; simpa [closeOk] using hcl
    · simp only [hcl, Bool.false_eq_true, if_false]
      show runFrom m (inQuote p) (34 :: S) = false
      rw [runFrom_cons_of hst]
      rw [hco] at hcl
      cases S with
      | nil => exact absurd rfl hcl
      | cons x xs => exact runFrom_cons_false fun _ h => by cases h; exact hcl rfl
  have h34' : (c == 34) = false := by simpa using h34
  simp only [h34', Bool.false_eq_true, if_false]
  by_cases h92 : c = 92
  · subst h92
    simp only [beq_self_eq_true, if_true]
    exact .go .bslash .inPair hS
  have h92' : (c == 92) = false := by simpa using h92
  simp only [h92', Bool.false_eq_true, if_false]
  by_cases hf : m = .m822 ∧ c = 13
  · -- RFC 822 folding: CR LF SP/HT is three symbols for the recogniser, one step for the scanner
    obtain ⟨rfl, rfl⟩ := hf
    rw [symsOf_bytes (by decide)] at hS
    cases hS
    simp only [decide_true, beq_self_eq_true, Bool.and_self, if_true]
    unfold Sim
    rw [runFrom_fold]
    rcases rest with _ | ⟨c1, _ | ⟨c2, rest⟩⟩
    · exact rfl
    · simp only [apply_ite (Act.All _ _), Act.all_ret, ite_self]
    · by_cases hfold : (c1 == 10 && (c2 == 9 || c2 == 32)) = true
      · simp only [hfold, if_true, Act.all_go]
        exact ⟨inQuote c2, by rw [Bool.or_comm (c2 == 32), hfold]; rfl, .inQuote nofun, symsOf_bytes (by decide) _⟩
      · simp only [hfold, Bool.false_eq_true, if_false, Act.all_ret]
        rw [Bool.or_comm (c2 == 32), (Bool.not_eq_true _).mp hfold]; rfl
  have hfold : (decide (m = .m822) && c == 13) = false := by simpa using hf
  simp only [hfold, Bool.false_eq_true, if_false]
  -- the recogniser reads `c` as quoted text, if the blank rule lets it
  have h13 : m = .m822 → c ≠ 13 := fun hm h => hf ⟨hm, h⟩
  have hq : ∀ {nx}, blocked m p c nx = false → Trans m (inQuote p) c nx (inQuote c) :=
    .qtext (okCh_of (e := e) hle h0 hctl h34 h92 h13)
  have hnq : ∀ {nx st'}, Trans m (inQuote p) c nx st' → blocked m p c nx = false := fun h => by
    cases h with
    | close => exact absurd rfl h34
    | bslash => exact absurd rfl h92
    | cr hm => exact absurd rfl (h13 hm)
    | qtext _ hb => exact hb
  have hnext : SInv m (some c) true false (inQuote c) rest.head? := .inQuote fun _ => rfl
  by_cases hb : m = .m5322 ∧ Spec.blank c = true
  · -- the RFC 5322 blank rule; here symbols are bytes and `prev` is the recogniser's look-behind byte
    obtain ⟨rfl, hbl⟩ := hb
    rw [symsOf_bytes (by decide)] at hS
    cases hS
    cases hp rfl
    simp only [decide_true, blanks_list, hbl, Bool.and_self, if_true, wsq_list]
    by_cases hwp : Spec.wsq p = true
    · simp only [hwp, if_true]
      exact .go (hq (by simp [blocked, hwp])) hnext rfl
    · simp only [hwp, Bool.false_eq_true, if_false]
      cases rest with
      | nil =>
        -- a blank at the very end: the scanner goes on and finds the quote open, the recogniser stops here
        refine ⟨inQuote c, ?_, hnext, rfl⟩
        rw [runFrom_cons_false fun _ h => by simpa [blocked, hbl, hwp] using hnq h]; rfl
      | cons d ds =>
        simp only [List.head?_cons]
        by_cases hd : Spec.wsq d = true
        · simp only [hd]
          exact .go (hq (by simp [blocked, hd])) hnext rfl
        · simp only [hd]
          exact .stop fun _ h => by simpa [blocked, hbl, hwp, hd] using hnq h
  · have hb' : (decide (m = .m5322) && blanks.contains c) = false := by
      rw [blanks_list]; simpa using hb
    simp only [hb', Bool.false_eq_true, if_false]
    have : blocked m p c S.head? = false := by
      by_cases hm : m = .m5322
      · have : Spec.blank c = false := by simpa [hm] using hb
        simp [blocked, this]
      · exact blocked_of_ne hm ..
    exact .go (hq this) hnext hS

end

/-- **one character**: whatever the scanner does with it, the recogniser does with its symbol -/
theorem step_sim (m : LMode) (e : Nat) {prev : Option Nat} {quote qpair : Bool} {st : St} {inp : List Nat} {c : Nat}
    {rest S : List Nat} (hn : m ≠ .m6531 → NulFree inp) (hc : nextCh (Scan.ofL e m).utf8 inp = .ch c rest)
    (hinv : SInv m prev quote qpair st inp.head?) (hS : symsOf m rest = some S) :
    Sim m st (symOf m c) rest S (scanStep (Scan.ofL e m) prev inp.head? quote qpair c rest) := by
  by_cases hhi : c > 127
  · refine sim_high hhi (fun hm => ?_) hinv hS
    subst hm
    exact (decodeNext_head (by simpa [ofL_utf8, nextCh] using hc)).2 (by omega)
  · have hle : c ≤ 127 := by omega
    have hinp := (nextCh_ch hc).2 hle
    have h0 : m ≠ .m6531 → c ≠ 0 := fun hm => hn hm c (by rw [hinp]; simp)
    rw [show symOf m c = c by simp [symOf]; omega]
    rw [hinp, List.head?_cons] at hinv ⊢
    match quote, qpair, hinv with
    | false, false, hinv => exact sim_unq hle hinv hS
    | true, false, .inQuote hp => exact sim_quoted hle h0 hp hS
    | true, true, .inPair => exact sim_pair hle h0 hS

/-- **the simulation**: from corresponding states, on an input the recogniser can read, the scanner returns 0 exactly
when the recogniser accepts -/
theorem scan_sim (m : LMode) (e : Nat) (prev : Option Nat) (quote qpair : Bool) (inp : List Nat) :
    ∀ (st : St) (S : List Nat), (m ≠ .m6531 → NulFree inp) → SInv m prev quote qpair st inp.head? → symsOf m inp = some S →
      (scan (.ofL e m) prev quote qpair inp = 0 ↔ runFrom m st S = true) := by
  refine scan_ind (k := .ofL e m) (P := fun prev quote qpair inp r => ∀ (st : St) (S : List Nat), (m ≠ .m6531 → NulFree inp) →
    SInv m prev quote qpair st inp.head? → symsOf m inp = some S → (r = 0 ↔ runFrom m st S = true)) ?_ ?_ ?_ ?_ prev quote qpair inp
  · intro prev quote qpair inp hc st S hn hinv hS
    obtain ⟨rfl, rfl⟩ : inp = [] ∧ S = [] := by simpa [hc] using symsOf_next (e := e) hn hS
    rw [locFin_zero, runFrom_nil_of_inv hinv]; simp
  · intro prev quote qpair inp hc st S hn _ hS
    simpa [hc] using symsOf_next (e := e) hn hS
  · intro prev quote qpair inp c rest r hc hs st S hn hinv hS
    obtain ⟨S', hR, rfl⟩ : ∃ S', symsOf m rest = some S' ∧ S = symOf m c :: S' := by simpa [hc] using symsOf_next (e := e) hn hS
    have h1 : Sim m st (symOf m c) rest S' (.ret r) := hs ▸ step_sim m e hn hc hinv hR
    have h1 : runFrom m st (symOf m c :: S') = false := h1
    have h2 := scanStep_all (.ofL e m) prev inp.head? quote qpair c rest
    rw [hs, Act.all_ret] at h2
    rw [h1]
    have : r ≠ 0 := by have := h2.1; omega
    simp [this]
  · intro prev quote qpair inp c rest p q qp n r hc hs ih st S hn hinv hS
    obtain ⟨S', hR, rfl⟩ : ∃ S', symsOf m rest = some S' ∧ S = symOf m c :: S' := by simpa [hc] using symsOf_next (e := e) hn hS
    obtain ⟨st', hrun, hinv', hS'⟩ : Sim m st (symOf m c) rest S' (.go p q qp n) := hs ▸ step_sim m e hn hc hinv hR
    rw [hrun]
    exact ih st' _ (fun hm => nextCh_forall hc (hn hm) n) hinv' hS'

/-- from the start of a non-empty NUL-free string, in the modes that read bytes -/
theorem scan_start_iff (m : LMode) (hm : m ≠ .m6531) (e : Nat) (s : List Nat) (hn : NulFree s) :
    (if s.isEmpty then -(E.LPART_EMPTY : Int) else scan (.ofL e m) none false false s) = 0 ↔ specLocal m s = true := by
  cases s with
  | nil => simp [specLocal, runFrom]
  | cons c cs => exact scan_sim m e none false false _ wordStart _ (fun _ => hn) (.start (by simp)) (symsOf_bytes hm _)

/-- **mode 5321**: `is_5321_local` accepts exactly the strings of the grammar -/
theorem is5321Local_iff (s : List Nat) (hn : NulFree s) : is5321Local s = 0 ↔ specLocal .m5321 s = true :=
  is5321Local_eq s ▸ scan_start_iff .m5321 (by decide) 0 s hn

/-- **mode 822**: `is_822_local` accepts exactly the strings of the grammar, whatever the byte at `*end` -/
theorem is822Local_iff (s : List Nat) (e : Nat) (hn : NulFree s) : is822Local s e = 0 ↔ specLocal .m822 s = true :=
  is822Local_eq s e ▸ scan_start_iff .m822 (by decide) e s hn

/-- **mode 5322**: `is_5322_local` accepts exactly the strings of the grammar -/
theorem is5322Local_iff (s : List Nat) (hn : NulFree s) : is5322Local s = 0 ↔ specLocal .m5322 s = true :=
  is5322Local_eq s ▸ scan_start_iff .m5322 (by decide) 0 s hn

/-- **mode 6531, default build**: well-formed UTF-8 whose characters, with every non-ASCII character read as one more
atom / quoted-text symbol, form an RFC 5321 local part -/
theorem is6531Local_iff (s : List Nat) :
    is6531Local {} s = 0 ↔ ∃ cps, decAll s = some cps ∧ specLocal .m6531 (collapse cps) = true := by
  rw [is6531Local_eq]
  cases s with
  | nil => simp [decAll_nil, collapse, specLocal, runFrom]
  | cons c cs =>
    have sim := fun cps (hd : decAll (c :: cs) = some cps) =>
      scan_sim .m6531 0 none false false (c :: cs) wordStart (collapse cps) (fun h => absurd rfl h) (.start (by simp))
        (by simp [symsOf, hd])
    constructor
    · intro h
      obtain ⟨cps, hd⟩ := scan_decodes _ rfl rfl _ _ _ _ h
      exact ⟨cps, hd, (sim cps hd).mp h⟩
    · rintro ⟨cps, hd, hr⟩
      exact (sim cps hd).mpr hr

end Eav
