import Eav.Utf8
import Eav.Spec.Utf8
/-!
# The decoder accepts exactly well-formed UTF-8

`decodeNext s = .ch cp rest` iff `cp` is a Unicode scalar value and `s` is its shortest-form encoding
followed by `rest`: no overlong forms, no surrogates, nothing above U+10FFFF, no stray or missing
continuation bytes.
-/
namespace Eav
open Spec

/-! ### the encoder by length, and the arithmetic of the bit fields

Each arithmetic fact is a lemma of its own about variables, closed by one `omega`: inside the proofs about `decodeNext` the same
goals would carry the list literals and the hypotheses of all branches. -/

theorem utf8Enc_ascii {c : Nat} (h : c < 128) : utf8Enc c = [c] := by simp [utf8Enc, h]
theorem utf8Enc_two {v : Nat} (h1 : 128 ≤ v) (h2 : v < 2048) : utf8Enc v = [192 + v / 64, 128 + v % 64] := by
  rw [utf8Enc, if_neg (by omega), if_pos h2]
theorem utf8Enc_three {v : Nat} (h1 : 2048 ≤ v) (h2 : v < 65536) :
    utf8Enc v = [224 + v / 4096, 128 + v / 64 % 64, 128 + v % 64] := by
  rw [utf8Enc, if_neg (by omega), if_neg (by omega), if_pos h2]
theorem utf8Enc_four {v : Nat} (h : 65536 ≤ v) :
    utf8Enc v = [240 + v / 262144, 128 + v / 4096 % 64, 128 + v / 64 % 64, 128 + v % 64] := by
  rw [utf8Enc, if_neg (by omega), if_neg (by omega), if_neg (by omega)]

/-- the payload of a two-byte sequence determines its bytes -/
theorem dec2 {c c1 v : Nat} (hv : v = c % 32 * 64 + c1 % 64) (h : ¬ c < 192) (h' : c < 224) (h1 : 128 ≤ c1 ∧ c1 < 192) :
    v < 2048 ∧ 192 + v / 64 = c ∧ 128 + v % 64 = c1 := by omega
theorem dec3 {c c1 c2 v : Nat} (hv : v = c % 16 * 4096 + c1 % 64 * 64 + c2 % 64) (h : ¬ c < 224) (h' : c < 240)
    (h1 : (128 ≤ c1 ∧ c1 < 192) ∧ 128 ≤ c2 ∧ c2 < 192) :
    v < 65536 ∧ 224 + v / 4096 = c ∧ 128 + v / 64 % 64 = c1 ∧ 128 + v % 64 = c2 := by omega
theorem dec4 {c c1 c2 c3 v : Nat} (hv : v = c % 8 * 262144 + c1 % 64 * 4096 + c2 % 64 * 64 + c3 % 64) (h : ¬ c < 240)
    (h' : c < 248) (h1 : ((128 ≤ c1 ∧ c1 < 192) ∧ 128 ≤ c2 ∧ c2 < 192) ∧ 128 ≤ c3 ∧ c3 < 192) :
    240 + v / 262144 = c ∧ 128 + v / 4096 % 64 = c1 ∧ 128 + v / 64 % 64 = c2 ∧ 128 + v % 64 = c3 := by omega

/-- a continuation byte carries six bits of the payload -/
theorem cont_mod (x : Nat) : (128 + x % 64) % 64 = x % 64 := by omega

/-- the bytes of a two-byte encoding pass the decoder's tests and carry the payload (for three and four bytes the tests are closed one
by one: a single `omega` over all the divisions costs three times as much) -/
theorem enc2 {v : Nat} (h1 : 128 ≤ v) (h2 : v < 2048) :
    ¬ 192 + v / 64 < 192 ∧ 192 + v / 64 < 224 ∧ 128 ≤ 128 + v % 64 ∧ 128 + v % 64 < 192 ∧
      (192 + v / 64) % 32 * 64 + (128 + v % 64) % 64 = v := by omega
theorem enc3 {v : Nat} (h1 : 2048 ≤ v) (h2 : v < 65536) :
    ¬ 224 + v / 4096 < 224 ∧ 224 + v / 4096 < 240 ∧ 128 ≤ 128 + v / 64 % 64 ∧ 128 + v / 64 % 64 < 192 ∧
      128 ≤ 128 + v % 64 ∧ 128 + v % 64 < 192 ∧
      (224 + v / 4096) % 16 * 4096 + (128 + v / 64 % 64) % 64 * 64 + (128 + v % 64) % 64 = v := by
  refine ⟨by omega, by omega, by omega, by omega, by omega, by omega, ?_⟩
  rw [cont_mod, cont_mod]; omega
theorem enc4 {v : Nat} (h1 : 65536 ≤ v) (h2 : v ≤ 1114111) :
    ¬ 240 + v / 262144 < 240 ∧ 240 + v / 262144 < 248 ∧ 128 ≤ 128 + v / 4096 % 64 ∧ 128 + v / 4096 % 64 < 192 ∧
      128 ≤ 128 + v / 64 % 64 ∧ 128 + v / 64 % 64 < 192 ∧ 128 ≤ 128 + v % 64 ∧ 128 + v % 64 < 192 ∧
      (240 + v / 262144) % 8 * 262144 + (128 + v / 4096 % 64) % 64 * 4096 + (128 + v / 64 % 64) % 64 * 64 +
        (128 + v % 64) % 64 = v := by
  refine ⟨by omega, by omega, by omega, by omega, by omega, by omega, by omega, by omega, ?_⟩
  rw [cont_mod, cont_mod, cont_mod]; omega

theorem decodeNext_sound {s : List Nat} {cp : Nat} {rest : List Nat} (h : decodeNext s = .ch cp rest) :
    validScalar cp = true ∧ s = utf8Enc cp ++ rest := by
  revert h
  fun_cases decodeNext s <;> intro h <;> (try cases h; done) <;> injection h with h1 h2 <;> subst h1 h2 <;>
    simp only [isCont, Bool.and_eq_true, decide_eq_true_eq, validScalar, Bool.not_eq_true', Bool.and_eq_false_iff,
      decide_eq_false_iff_not] at *
  -- the range first: once the facts of `dec#` are in the context every `omega` pays for them
  · exact ⟨by omega, by rw [utf8Enc_ascii ‹_›]; rfl⟩
  · refine ⟨by omega, ?_⟩
    obtain ⟨hlt, e1, e2⟩ := dec2 rfl ‹_› ‹_› ‹_›
    rw [utf8Enc_two ‹_› hlt, e1, e2]; rfl
  · refine ⟨by omega, ?_⟩
    have h1 : _ ≥ 2048 := (‹_ ∧ (_ ∨ _)›).1
    obtain ⟨hlt, e1, e2, e3⟩ := dec3 rfl ‹_› ‹_› ‹_›
    rw [utf8Enc_three h1 hlt, e1, e2, e3]; rfl
  · refine ⟨by omega, ?_⟩
    have h1 : _ ≥ 65536 := (‹_ ≥ 65536 ∧ _›).1
    obtain ⟨e1, e2, e3, e4⟩ := dec4 rfl ‹_› ‹_› ‹_›
    rw [utf8Enc_four h1, e1, e2, e3, e4]; rfl

theorem decodeNext_complete (cp : Nat) (rest : List Nat) (h : validScalar cp = true) :
    decodeNext (utf8Enc cp ++ rest) = .ch cp rest := by
  simp only [validScalar, Bool.and_eq_true, decide_eq_true_eq, Bool.not_eq_true', Bool.and_eq_false_iff,
    decide_eq_false_iff_not] at h
  by_cases h1 : cp < 128
  · rw [utf8Enc_ascii h1]; simp only [List.cons_append, List.nil_append, decodeNext, h1, if_true]
  · by_cases h2 : cp < 2048
    · obtain ⟨a1, a2, a3, a4, a5⟩ := enc2 (by omega) h2
      rw [utf8Enc_two (by omega) h2]
      have a0 : ¬ 192 + cp / 64 < 128 := by omega
      have a6 : cp ≥ 128 := by omega
      simp only [List.cons_append, List.nil_append, decodeNext, isCont, a0, a1, a2, a3, a4, a5, a6, if_true, if_false,
        decide_true, Bool.and_self]
    · by_cases h3 : cp < 65536
      · obtain ⟨a1, a2, a3, a4, a5, a6, a7⟩ := enc3 (by omega) h3
        rw [utf8Enc_three (by omega) h3]
        have a0 : ¬ 224 + cp / 4096 < 128 ∧ ¬ 224 + cp / 4096 < 192 := by omega
        have a8 : cp ≥ 2048 ∧ (cp < 55296 ∨ cp > 57343) := by omega
        simp only [List.cons_append, List.nil_append, decodeNext, isCont, a0, a1, a2, a3, a4, a5, a6, a7, a8, if_true, if_false,
          decide_true, Bool.and_self, and_self]
      · obtain ⟨a1, a2, a3, a4, a5, a6, a7, a8, a9⟩ := enc4 (by omega) h.1
        rw [utf8Enc_four (by omega)]
        have a0 : ¬ 240 + cp / 262144 < 128 ∧ ¬ 240 + cp / 262144 < 192 ∧ ¬ 240 + cp / 262144 < 224 := by omega
        have a10 : cp ≥ 65536 ∧ cp ≤ 1114111 := by omega
        simp only [List.cons_append, List.nil_append, decodeNext, isCont, a0, a1, a2, a3, a4, a5, a6, a7, a8, a9, a10, if_true,
          if_false, decide_true, Bool.and_self, and_self]

/-- decode a whole string with the model decoder -/
def decAll (s : List Nat) : Option (List Nat) :=
  match h : decodeNext s with
  | .fin => some []
  | .err => none
  | .ch cp rest => (decAll rest).map (cp :: ·)
termination_by s.length
decreasing_by exact decodeNext_length h

theorem decAll_eq (s : List Nat) :
    decAll s = match decodeNext s with
      | .fin => some []
      | .err => none
      | .ch cp rest => (decAll rest).map (cp :: ·) := by
  rw [decAll]; split <;> simp only [*]

theorem decAll_nil : decAll [] = some [] := by rw [decAll_eq]; rfl

theorem decAll_fin {inp : List Nat} (h : decodeNext inp = .fin) : decAll inp = some [] := by rw [decAll_eq, h]

theorem decAll_err {inp : List Nat} (h : decodeNext inp = .err) : decAll inp = none := by rw [decAll_eq, h]

theorem decAll_step {inp : List Nat} {cp : Nat} {rest : List Nat} (h : decodeNext inp = .ch cp rest) :
    decAll inp = (decAll rest).map (cp :: ·) := by rw [decAll_eq, h]

theorem decodeNext_fin {s : List Nat} (h : decodeNext s = .fin) : s = [] := by
  revert h
  fun_cases decodeNext s <;> intro h <;> first | rfl | cases h

theorem utf8Enc_ne_nil (cp : Nat) : utf8Enc cp ≠ [] := by
  fun_cases utf8Enc cp <;> nofun

theorem decodeNext_of_isUtf8Of {cps s : List Nat} (h : IsUtf8Of cps s) :
    decodeNext s = match cps with | [] => .fin | cp :: l => .ch cp (l.flatMap utf8Enc) := by
  obtain ⟨hv, rfl⟩ := h
  cases cps with
  | nil => rfl
  | cons cp l => exact decodeNext_complete cp _ (hv cp (by simp))

/-- **the decoder accepts exactly the encodings of sequences of scalar values** -/
theorem decAll_iff (s : List Nat) (cps : List Nat) : decAll s = some cps ↔ IsUtf8Of cps s := by
  fun_induction decAll s generalizing cps with
  | case1 s h =>
    cases decodeNext_fin h
    cases cps <;> simp [IsUtf8Of, utf8Enc_ne_nil]
  | case2 s h =>
    refine ⟨nofun, fun hu => ?_⟩
    have := decodeNext_of_isUtf8Of hu
    rw [h] at this
    cases cps <;> cases this
  | case3 s cp rest h ih =>
    constructor
    · intro hm
      obtain ⟨l, hr, rfl⟩ := Option.map_eq_some_iff.mp hm
      obtain ⟨hv, hs⟩ := decodeNext_sound h
      obtain ⟨hall, hrest⟩ := (ih l).mp hr
      exact ⟨List.forall_mem_cons.mpr ⟨hv, hall⟩, by rw [hs, hrest]; rfl⟩
    · intro hu
      have := decodeNext_of_isUtf8Of hu
      rw [h] at this
      cases cps with
      | nil => cases this
      | cons cp' l =>
        cases this
        rw [(ih l).mpr ⟨fun x hx => hu.1 x (by simp [hx]), rfl⟩]; rfl

theorem utf8Enc_high {c : Nat} (h : c > 127) : ∀ b ∈ utf8Enc c, b ≥ 128 := by
  fun_cases utf8Enc c <;> intro b hb <;> simp at hb <;> omega

theorem decodeNext_head {inp : List Nat} {cp : Nat} {rest : List Nat} (h : decodeNext inp = .ch cp rest) :
    (cp < 128 → inp.head? = some cp) ∧ (cp ≥ 128 → ∃ L, inp.head? = some L ∧ L ≥ 128) := by
  obtain ⟨_, rfl⟩ := decodeNext_sound h
  refine ⟨fun hlt => by rw [utf8Enc_ascii hlt]; rfl, fun hge => ?_⟩
  cases he : utf8Enc cp with
  | nil => exact absurd he (utf8Enc_ne_nil cp)
  | cons L t => exact ⟨L, rfl, utf8Enc_high (c := cp) (by omega) L (by rw [he]; simp)⟩

theorem isUtf8Of_ascii (s : List Nat) (h : ∀ b ∈ s, b < 128) : IsUtf8Of s s := by
  refine ⟨fun cp hcp => by have := h cp hcp; simp [validScalar]; omega, ?_⟩
  induction s with
  | nil => rfl
  | cons c cs ih =>
    simp only [List.flatMap_cons, utf8Enc_ascii (h c (by simp)), List.singleton_append, List.cons.injEq, true_and]
    exact ih (fun b hb => h b (by simp [hb]))

theorem collapse_ascii (s : List Nat) (h : ∀ b ∈ s, b < 128) : collapse s = s := by
  induction s with
  | nil => rfl
  | cons c cs ih =>
    have := h c (by simp)
    simp only [collapse, List.map_cons, List.cons.injEq]
    refine ⟨by simp; omega, ?_⟩
    exact ih (fun b hb => h b (by simp [hb]))

end Eav
