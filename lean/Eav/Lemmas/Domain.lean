import Eav.Domain
import Eav.Spec.Host
import Eav.Lemmas.Split
/-!
`is_ascii_domain`, once: the loop body as one equation per class of byte; everything the loop can return
(`domLoop_res`: the codes, and the one fault); the loop invariant against the specification (`domLoop_spec`:
the scan from a position with `label_length = ll` accepts iff the rest of the input completes the current label
and continues with well-formed labels); and that the loop looks at a byte only through five tests (`domLoop_map`).
-/
namespace Eav
open Spec

theorem letDig_eq_labelChar (us : Bool) (c : Nat) : letDig us c = labelChar us c := rfl

/-- the rest `l` of a label of which `ll` characters have been consumed -/
def okCont (us : Bool) (ll : Nat) (l : List Nat) : Bool :=
  decide (1 ≤ ll + l.length) && decide (ll + l.length ≤ 63) && l.all (fun c => labelChar us c || c == 45)
    && (ll != 0 || l.head? != some 45) && l.getLast? != some 45

def restOk (us : Bool) (ll : Nat) (cs : List Nat) : Bool :=
  match splitDots cs with
  | l0 :: rest => okCont us ll l0 && rest.all (okLabel us)
  | [] => false

theorem okCont_zero (us : Bool) (l : List Nat) : okCont us 0 l = okLabel us l := by
  simp [okCont, okLabel, letDig_eq_labelChar]

theorem restOk_zero (us : Bool) (x : List Nat) : restOk us 0 x = (splitDots x).all (okLabel us) := by
  obtain ⟨l, ls, h⟩ := splitDots_eq_cons x
  simp [restOk, h, okCont_zero]

/-! ### the byte classes and one step of the loop

The codes are written as numbers (`omega` does not look through the cast of `E.…` to `Int`): −16 `EEAV_DOMAIN_EMPTY`, −17 `…_LABEL_TOO_LONG`,
−18 `…_MISPLACED_HYPHEN`, −19 `…_MISPLACED_DELIMITER`, −20 `…_INVALID_CHAR`, −21 `…_TOO_LONG`, −22 `…_NUMERIC`. -/

/-- the smallest label character is `'0'`: so a label character is not NUL, `'.'` or `'-'` -/
theorem labelChar_ge {us : Bool} {c : Nat} (h : labelChar us c = true) : 48 ≤ c := by
  simp only [labelChar, isAlnum, isDigit, isAlpha, isUpper, isLower, Bool.or_eq_true, Bool.and_eq_true,
    decide_eq_true_eq, beq_iff_eq] at h
  omega

/-- the five arms of the loop body -/
theorem labelByte_cases (us : Bool) (c : Nat) :
    c = 0 ∨ labelChar us c = true ∨ c = 46 ∨ c = 45 ∨
      (c ≠ 0 ∧ labelChar us c = false ∧ c ≠ 46 ∧ c ≠ 45) := by
  cases labelChar us c <;> simp <;> omega

section step
variable {us : Bool} {c : Nat} {cs after : List Nat} {ll : Nat} {nn : Bool}

theorem domLoop_nil : domLoop us [] after ll nn = .ok (domFin ll nn) := rfl

theorem domLoop_nul : domLoop us (0 :: cs) after ll nn = .ok (domFin ll nn) := rfl

theorem domLoop_label (hl : labelChar us c = true) :
    domLoop us (c :: cs) after ll nn =
      if 63 ≤ ll then .ok (-17) else domLoop us cs after (ll + 1) (nn || !isDigit c) := by
  have h0 : c ≠ 0 := by have := labelChar_ge hl; omega
  rw [domLoop, if_neg (by simpa using h0), if_pos hl]
  by_cases h : 63 ≤ ll
  · rw [if_pos h, if_pos (by simp only [Lim.VALID_LABEL_LEN]; omega)]; rfl
  · rw [if_neg h, if_neg (by simp only [Lim.VALID_LABEL_LEN]; omega)]

theorem domLoop_dot :
    domLoop us (46 :: cs) after ll nn =
      if ll = 0 then .ok (-19) else domLoop us cs after 0 nn := by
  have hl : ¬ labelChar us 46 = true := fun h => by have := labelChar_ge h; omega
  rw [domLoop, if_neg (by decide), if_neg hl, if_pos (by decide)]
  by_cases h : ll = 0
  · rw [if_pos h, if_pos (by simpa using h)]; rfl
  · rw [if_neg h, if_neg (by simpa using h)]

/-- the only arm that reads past the current byte -/
theorem domLoop_hyphen :
    domLoop us (45 :: cs) after ll nn =
      if ll = 0 then .ok (-18) else
        match peek cs after with
        | .error e => .error e
        | .ok nx => if nx = 0 ∨ nx = 46 then .ok (-18) else domLoop us cs after (ll + 1) true := by
  have hl : ¬ labelChar us 45 = true := fun h => by have := labelChar_ge h; omega
  rw [domLoop, if_neg (by decide), if_neg hl, if_neg (by decide), if_pos (by decide)]
  by_cases h : ll = 0
  · rw [if_pos h, if_pos (by simpa using h)]; rfl
  · rw [if_neg h, if_neg (by simpa using h)]
    cases peek cs after with
    | error e => rfl
    | ok nx => simp only [bind, Except.bind, Bool.or_eq_true, beq_iff_eq]; rfl

theorem domLoop_other (h0 : c ≠ 0) (hl : labelChar us c = false) (h46 : c ≠ 46) (h45 : c ≠ 45) :
    domLoop us (c :: cs) after ll nn = .ok (-20) := by
  rw [domLoop, if_neg (by simpa using h0), if_neg (by simp [hl]), if_neg (by simpa using h46),
    if_neg (by simpa using h45)]; rfl

end step

theorem peek_ok_or (cs after : List Nat) : (∃ nx, peek cs after = .ok nx) ∨ (after = [] ∧ peek cs after = .error .oob) := by
  cases cs with
  | cons d ds => exact Or.inl ⟨d, rfl⟩
  | nil =>
    cases after with
    | cons a as => exact Or.inl ⟨a, rfl⟩
    | nil => exact Or.inr ⟨rfl, rfl⟩

/-- in a NUL-free input followed by NUL or the root dot, the look-ahead behind a hyphen sees NUL or a dot exactly where
the label ends -/
theorem peek_end {cs after : List Nat} (hnul : ∀ c ∈ cs, c ≠ 0) (hafter : after.head? = some 0 ∨ after.head? = some 46) :
    ∃ nx, peek cs after = .ok nx ∧ ((nx = 0 ∨ nx = 46) ↔ (cs = [] ∨ cs.head? = some 46)) := by
  cases cs with
  | cons d ds => exact ⟨d, rfl, by simp [hnul d List.mem_cons_self]⟩
  | nil =>
    cases after with
    | nil => simp at hafter
    | cons a as => exact ⟨a, rfl, by simpa using hafter⟩

/-! ### everything the loop can return -/

/-- the codes of the loop (0 or `-EEAV_DOMAIN_NUMERIC … -EEAV_DOMAIN_LABEL_TOO_LONG`), and the one fault: the
look-ahead behind a hyphen, when nothing is stored behind `end` -/
def DomRes (after : List Nat) (x : Except Fault Int) : Prop :=
  (∃ r, x = .ok r ∧ (r = 0 ∨ (-22 ≤ r ∧ r ≤ -17))) ∨ (after = [] ∧ x = .error .oob)

theorem domRes_code {after : List Nat} {r : Int} (h : -22 ≤ r ∧ r ≤ -17) : DomRes after (.ok r) :=
  Or.inl ⟨r, rfl, Or.inr h⟩

theorem domRes_fin (after : List Nat) (ll : Nat) (nn : Bool) : DomRes after (.ok (domFin ll nn)) := by
  refine Or.inl ⟨_, rfl, ?_⟩
  unfold domFin
  by_cases h : (ll == 0) = true
  · rw [if_pos h]; exact Or.inr (by decide)
  · rw [if_neg h]; cases nn
    · exact Or.inr (by decide)
    · exact Or.inl rfl

theorem domLoop_res (us : Bool) (cs : List Nat) : ∀ (after : List Nat) (ll : Nat) (nn : Bool),
    DomRes after (domLoop us cs after ll nn) := by
  induction cs with
  | nil => exact domRes_fin
  | cons c cs ih =>
    intro after ll nn
    rcases labelByte_cases us c with rfl | hl | rfl | rfl | ⟨h0, hl, h46, h45⟩
    · rw [domLoop_nul]; exact domRes_fin after ll nn
    · rw [domLoop_label hl]; split
      · exact domRes_code (by decide)
      · exact ih _ _ _
    · rw [domLoop_dot]; split
      · exact domRes_code (by decide)
      · exact ih _ _ _
    · rw [domLoop_hyphen]; split
      · exact domRes_code (by decide)
      · rcases peek_ok_or cs after with ⟨nx, hp⟩ | ⟨ha, hp⟩ <;> rw [hp]
        · simp only; split
          · exact domRes_code (by decide)
          · exact ih _ _ _
        · exact Or.inr ⟨ha, rfl⟩
    · rw [domLoop_other h0 hl h46 h45]; exact domRes_code (by decide)

/-- the four ways out of `is_ascii_domain`, each with the test that leads to it -/
theorem isAsciiDomain_cases (us : Bool) (s after : List Nat) :
    (s = [] ∧ isAsciiDomain us s after = .ok (-16)) ∨
    ((255 ≤ s.length ∨ (s.length = 254 ∧ s.getLast? ≠ some 46)) ∧ isAsciiDomain us s after = .ok (-21)) ∨
    (2 ≤ s.length ∧ s.length ≤ 254 ∧ s.getLast? = some 46 ∧
      isAsciiDomain us s after = domLoop us s.dropLast (46 :: after) 0 false) ∨
    (s ≠ [] ∧ s.length ≤ 253 ∧ ¬ (2 ≤ s.length ∧ s.getLast? = some 46) ∧
      isAsciiDomain us s after = domLoop us s after 0 false) := by
  fun_cases isAsciiDomain us s after with
  | case1 h0 => exact .inl ⟨List.length_eq_zero_iff.mp (by simpa using h0), rfl⟩
  | case2 h0 h1 => exact .inr (.inl ⟨by simpa [Lim.VALID_HOSTNAME_LEN] using h1, rfl⟩)
  | case3 h0 h1 h2 =>
    simp [Lim.VALID_HOSTNAME_LEN] at h1 h2
    exact .inr (.inr (.inl ⟨h2.1, by omega, h2.2, rfl⟩))
  | case4 h0 h1 h2 =>
    simp [Lim.VALID_HOSTNAME_LEN] at h0 h1 h2
    refine .inr (.inr (.inr ⟨h0, ?_, by simpa using h2, rfl⟩))
    -- 254 bytes are allowed only with a root dot, and that is the third arm
    by_cases h254 : s.length = 254
    · exact absurd (h1.2 h254) (h2 (by omega))
    · omega

/-- `is_ascii_domain` returns 0 or one of `-EEAV_DOMAIN_NUMERIC … -EEAV_DOMAIN_LABEL_TOO_LONG`, or
`-EEAV_DOMAIN_EMPTY` for the empty string; it faults only if nothing is stored behind `end` -/
theorem isAsciiDomain_res (us : Bool) (s after : List Nat) :
    (∃ r, isAsciiDomain us s after = .ok r ∧ (r = 0 ∨ (-22 ≤ r ∧ r ≤ -17) ∨ (s = [] ∧ r = -16))) ∨
      (after = [] ∧ isAsciiDomain us s after = .error .oob) := by
  rcases isAsciiDomain_cases us s after with ⟨hs, h⟩ | ⟨-, h⟩ | ⟨-, -, -, h⟩ | ⟨-, -, -, h⟩ <;> rw [h]
  · exact Or.inl ⟨_, rfl, Or.inr (Or.inr ⟨hs, rfl⟩)⟩
  · exact Or.inl ⟨_, rfl, Or.inr (Or.inl (by decide))⟩
  · rcases domLoop_res us s.dropLast (46 :: after) 0 false with ⟨r, hr, h⟩ | ⟨ha, _⟩
    · exact Or.inl ⟨r, hr, by omega⟩
    · cases ha
  · rcases domLoop_res us s after 0 false with ⟨r, hr, h⟩ | h
    · exact Or.inl ⟨r, hr, by omega⟩
    · exact Or.inr h

theorem isAsciiDomain_ok_cases {us : Bool} {s after : List Nat} {r : Int} (h : isAsciiDomain us s after = .ok r) :
    r = 0 ∨ (-22 ≤ r ∧ r ≤ -17) ∨ (s = [] ∧ r = -16) := by
  rcases isAsciiDomain_res us s after with ⟨r', hr, h'⟩ | ⟨_, he⟩
  · rw [hr] at h; cases h; exact h'
  · rw [he] at h; cases h

/-! ### one step of the specification: `restOk` consumes a byte the way the loop does -/

theorem okCont_nil (us : Bool) (ll : Nat) : okCont us ll [] = (decide (1 ≤ ll) && decide (ll ≤ 63)) := by
  rw [Bool.eq_iff_iff]; simp [okCont]

theorem okCont_label {us : Bool} {c : Nat} (hl : labelChar us c = true) (ll : Nat) (l : List Nat) :
    okCont us ll (c :: l) = okCont us (ll + 1) l := by
  have h48 := labelChar_ge hl
  have hgl : (c :: l).getLast? = some 45 ↔ l.getLast? = some 45 := by
    cases l with
    | nil => simp; omega
    | cons a l => rw [List.getLast?_cons_cons]
  have e : ll + (l.length + 1) = ll + 1 + l.length := by omega
  have hc : c ≠ 45 := by omega
  rw [Bool.eq_iff_iff]
  simp [okCont, hl, hgl, e, hc]

/-- a hyphen is neither first nor last in its label -/
theorem okCont_hyphen (us : Bool) (ll : Nat) (l : List Nat) :
    okCont us ll (45 :: l) = (ll != 0 && !l.isEmpty && okCont us (ll + 1) l) := by
  cases l with
  | nil => simp [okCont]
  | cons a l =>
    have e : ll + (l.length + 1 + 1) = ll + 1 + (l.length + 1) := by omega
    rw [Bool.eq_iff_iff]
    simp [okCont, List.getLast?_cons_cons, e]
    exact ⟨fun ⟨⟨h1, h2⟩, h3⟩ => ⟨h2, h1, h3⟩, fun ⟨h2, h1, h3⟩ => ⟨⟨h1, h2⟩, h3⟩⟩

theorem okCont_other {us : Bool} {c : Nat} (hl : labelChar us c = false) (h45 : c ≠ 45) (ll : Nat) (l : List Nat) :
    okCont us ll (c :: l) = false := by
  simp [okCont, hl, h45]

theorem restOk_le {us : Bool} {ll : Nat} {cs : List Nat} (h : restOk us ll cs = true) : ll ≤ 63 := by
  unfold restOk at h
  cases hs : splitDots cs with
  | nil => rw [hs] at h; cases h
  | cons l ls =>
    simp only [hs, okCont, Bool.and_eq_true, decide_eq_true_eq] at h
    omega

theorem restOk_nil (us : Bool) (ll : Nat) : restOk us ll [] = (decide (1 ≤ ll) && decide (ll ≤ 63)) := by
  simp only [restOk, splitDots, okCont_nil, List.all_nil, Bool.and_true]

theorem restOk_label {us : Bool} {c : Nat} (hl : labelChar us c = true) (ll : Nat) (cs : List Nat) :
    restOk us ll (c :: cs) = restOk us (ll + 1) cs := by
  have h48 := labelChar_ge hl
  obtain ⟨l, ls, hs, hs'⟩ := splitDots_cons_ne (c := c) (cs := cs) (by omega)
  simp only [restOk, hs, hs', okCont_label hl]

theorem restOk_dot (us : Bool) (ll : Nat) (cs : List Nat) :
    restOk us ll (46 :: cs) = (decide (1 ≤ ll) && decide (ll ≤ 63) && restOk us 0 cs) := by
  obtain ⟨l, ls, hs⟩ := splitDots_eq_cons cs
  simp only [restOk, splitDots_dot, hs, okCont_nil, List.all_cons, okCont_zero]

/-- behind a hyphen the label goes on -/
theorem restOk_hyphen (us : Bool) (ll : Nat) (cs : List Nat) :
    restOk us ll (45 :: cs) = (ll != 0 && !cs.isEmpty && cs.head? != some 46 && restOk us (ll + 1) cs) := by
  cases cs with
  | nil => simp [restOk, splitDots, okCont_hyphen]
  | cons d ds =>
    obtain ⟨l, ls, hs, hs'⟩ := splitDots_cons_ne (c := 45) (cs := d :: ds) (by decide)
    by_cases hd : d = 46
    · subst hd
      rw [splitDots_dot] at hs
      obtain ⟨rfl, rfl⟩ := List.cons.inj hs
      simp [restOk, hs', okCont_hyphen]
    · obtain ⟨l', ls', _, hd'⟩ := splitDots_cons_ne (c := d) (cs := ds) hd
      rw [hd'] at hs
      obtain ⟨rfl, rfl⟩ := List.cons.inj hs
      have hd46 : (some d != some 46) = true := by simpa using hd
      simp [restOk, hs', hd', okCont_hyphen, hd46, Bool.and_assoc]

theorem restOk_other {us : Bool} {c : Nat} (hl : labelChar us c = false) (h46 : c ≠ 46) (h45 : c ≠ 45)
    (ll : Nat) (cs : List Nat) : restOk us ll (c :: cs) = false := by
  obtain ⟨l, ls, hs, hs'⟩ := splitDots_cons_ne (c := c) (cs := cs) h46
  simp only [restOk, hs', okCont_other hl h45, Bool.false_and]

/-! ### the loop decides the specification -/

theorem domFin_ok (ll : Nat) (nn : Bool) : (domFin ll nn = 0) ↔ (ll ≠ 0 ∧ nn = true) := by
  unfold domFin
  by_cases h : ll = 0
  · simp [h]
  · cases nn <;> simp [h]

theorem allNumeric_cons (c : Nat) (cs : List Nat) :
    allNumeric (c :: cs) = ((isDigit c || c == 46) && allNumeric cs) := rfl

/-- a rejecting arm: the loop returns an error code and the specification is false -/
theorem domLoop_reject_iff {k : Int} (hk : k ≠ 0) {b : Bool} (hb : b = false) (P : Prop) :
    ((.ok k : Except Fault Int) = .ok 0) ↔ (b = true ∧ P) := by
  subst hb; simp [hk]

/-- Invariant of the loop.  The bound on `ll` is needed only where the label may end at once (at the end of the
input or before a dot): inside a label the loop tests the length at the next letter or digit, and a hyphen, which
is not tested, is never last. -/
theorem domLoop_spec (us : Bool) (cs : List Nat) : ∀ (after : List Nat) (ll : Nat) (nn : Bool),
    (∀ c ∈ cs, c ≠ 0) → (after.head? = some 0 ∨ after.head? = some 46) →
    (cs = [] ∨ cs.head? = some 46 → ll ≤ 63) →
    (domLoop us cs after ll nn = .ok 0 ↔
      (restOk us ll cs = true ∧ (nn = true ∨ allNumeric cs = false))) := by
  induction cs with
  | nil =>
    intro after ll nn _ _ hll
    have := hll (Or.inl rfl)
    rw [domLoop_nil, restOk_nil, Except.ok.injEq, domFin_ok]
    simp [allNumeric]; omega
  | cons c cs ih =>
    intro after ll nn hnul hafter hll
    have hnul' : ∀ d ∈ cs, d ≠ 0 := fun d hd => hnul d (List.mem_cons_of_mem _ hd)
    have ih := fun ll nn => ih after ll nn hnul' hafter
    rw [allNumeric_cons]
    rcases labelByte_cases us c with rfl | hl | rfl | rfl | ⟨h0, hl, h46, h45⟩
    · exact absurd rfl (hnul 0 (List.mem_cons_self ..))
    · -- letter or digit: the label grows
      have h46 : (c == 46) = false := by have := labelChar_ge hl; simp; omega
      rw [domLoop_label hl, restOk_label hl, h46, Bool.or_false]
      by_cases h : 63 ≤ ll
      · rw [if_pos h]
        exact domLoop_reject_iff (by decide) (Bool.eq_false_iff.mpr fun h' => by have := restOk_le h'; omega) _
      · rw [if_neg h, ih _ _ (fun _ => by omega)]
        cases nn <;> cases isDigit c <;> simp
    · -- dot: the label ends here, the next one starts
      have h63 := hll (Or.inr rfl)
      rw [domLoop_dot, restOk_dot]
      by_cases h : ll = 0
      · rw [if_pos h]; exact domLoop_reject_iff (by decide) (by simp [h]) _
      · rw [if_neg h, ih _ _ (fun _ => by omega)]
        have : 1 ≤ ll := by omega
        simp [this, h63]
    · -- hyphen: not first, and the byte behind it is neither the end nor a dot
      obtain ⟨nx, hp, hnx⟩ := peek_end hnul' hafter
      rw [domLoop_hyphen, hp, restOk_hyphen]
      by_cases h : ll = 0
      · rw [if_pos h]; exact domLoop_reject_iff (by decide) (by simp [h]) _
      · by_cases he : cs = [] ∨ cs.head? = some 46
        · simp only [if_neg h, if_pos (hnx.mpr he)]
          exact domLoop_reject_iff (by decide) (by rcases he with rfl | he <;> simp [*]) _
        · simp only [if_neg h, if_neg (mt hnx.mp he)]
          rw [ih _ _ (fun h' => absurd h' he)]
          have := not_or.mp he
          simp [h, this, isDigit]
    · rw [domLoop_other h0 hl h46 h45]
      exact domLoop_reject_iff (by decide) (restOk_other hl h46 h45 ll cs) _

theorem domLoop_ok (us : Bool) (cs : List Nat) : ∀ (after : List Nat) (ll : Nat) (nn : Bool),
    (∀ c ∈ cs, c ≠ 0) → (after.head? = some 0 ∨ after.head? = some 46) → ll ≤ 63 →
    (domLoop us cs after ll nn = .ok 0 ↔
      (restOk us ll cs = true ∧ (nn = true ∨ allNumeric cs = false))) :=
  fun after ll nn hnul hafter hll => domLoop_spec us cs after ll nn hnul hafter (fun _ => hll)

/-! ### the loop sees a byte only through five tests -/

/-- `f` keeps every test the loop makes on a byte -/
def KeepsClass (us : Bool) (f : Nat → Nat) : Prop :=
  ∀ c, labelChar us (f c) = labelChar us c ∧ isDigit (f c) = isDigit c ∧
    ((f c == 46) = (c == 46)) ∧ ((f c == 45) = (c == 45)) ∧ ((f c == 0) = (c == 0))

theorem domLoop_map {us : Bool} {f : Nat → Nat} (hf : KeepsClass us f) (cs : List Nat) :
    ∀ (after : List Nat) (ll : Nat) (nn : Bool), domLoop us (cs.map f) after ll nn = domLoop us cs after ll nn := by
  induction cs with
  | nil => intro after ll nn; rfl
  | cons c cs ih =>
    intro after ll nn
    obtain ⟨h1, h2, h3, h4, h5⟩ := hf c
    simp only [List.map_cons]
    unfold domLoop
    simp only [h1, h2, h3, h4, h5, ih]
    -- what is left is the look-ahead behind a hyphen: `f d` for `d`, of which only `== 0`, `== 46` are asked
    cases cs with
    | nil => rfl
    | cons d ds =>
      obtain ⟨_, _, g3, _, g5⟩ := hf d
      simp only [List.map_cons, peek, bind, Except.bind, g3, g5]

theorem isAsciiDomain_map {us : Bool} {f : Nat → Nat} (hf : KeepsClass us f) (s after : List Nat) :
    isAsciiDomain us (s.map f) after = isAsciiDomain us s after := by
  have hg : ((s.map f).getLast? == some 46) = (s.getLast? == some 46) := by
    rw [List.getLast?_map]
    cases s.getLast? with
    | none => rfl
    | some x => exact (hf x).2.2.1
  unfold isAsciiDomain
  simp only [List.length_map, bne, hg, ← List.map_dropLast, domLoop_map hf]

end Eav
