import Eav.Ip
import Eav.Lemmas.Split
/-!
# Step equations of the `is_ipv6` loop

The loop of `src/is_ipv4_ipv6.c:is_ipv6` seen one token at a time: end of input, `.`, `:`, `::`, a run of
hexadecimal digits, any other byte.  `after` is `"]\0"` in every call the library makes (the bytes at `end`), so the
byte the loop sees behind `cs` is `cs.headD 93`.
-/
namespace Eav
open Eav.Spec

abbrev lit : List Nat := [93, 0]

theorem peek_lit (cs : List Nat) : peek cs lit = .ok (cs.headD 93) := by
  cases cs <;> rfl

theorem ipv6Loop_nil (after : List Nat) (f nf : Nat) (run : List Nat) (sk : Nat) :
    ipv6Loop [] after f nf run sk = .ok (ipv6Fin f nf run.length) := by
  unfold ipv6Loop; rfl

/-- the checks at `done:` -/
theorem ipv6Fin_iff (f nf len : Nat) :
    ipv6Fin f nf len = true ↔ 2 ≤ f ∧ (len = 0 → nf = f - 1) ∧ (nf = 0 → f = 7) := by
  fun_cases ipv6Fin f nf len
  all_goals simp only [Bool.and_eq_true, beq_iff_eq, bne_iff_ne, ne_eq, Bool.false_eq_true, false_iff, true_iff] at *
  all_goals omega

theorem ipv6Loop_skip (after : List Nat) (f nf : Nat) (run : List Nat) : ∀ (g rest : List Nat),
    ipv6Loop (g ++ rest) after f nf run g.length = ipv6Loop rest after f nf run 0
  | [], rest => rfl
  | c :: g, rest => by
    have := ipv6Loop_skip after f nf run g rest
    simp only [List.cons_append, List.length_cons]
    rw [ipv6Loop]
    simp only [Nat.zero_lt_succ, if_true, Nat.add_sub_cancel, this]

theorem ipv6Loop_dot (cs after : List Nat) (f nf : Nat) (run : List Nat) :
    ipv6Loop (46 :: cs) after f nf run 0 =
      if f < 2 ∨ f > 6 then .ok false
      else if nf = 0 ∧ f ≠ 6 then .ok false
      else isIpv4 (run ++ 46 :: cs) after := by
  rw [ipv6Loop]
  simp [isIpv4]

/-- a colon: the look-ahead at the very start, one more field, and the one `::` if a second colon follows -/
theorem ipv6Loop_colon (cs : List Nat) (f nf : Nat) (run : List Nat) :
    ipv6Loop (58 :: cs) lit f nf run 0 =
      if f = 0 ∧ run = [] ∧ isAlnum (cs.headD 93) = true then .ok false
      else if f + 1 > 7 then .ok false
      else if cs.headD 93 = 58 then (if nf > 0 then .ok false else ipv6Loop cs lit (f + 1) (f + 1) [] 0)
      else ipv6Loop cs lit (f + 1) nf [] 0 := by
  rw [ipv6Loop]
  simp only [peek_lit]
  generalize cs.headD 93 = x
  by_cases hs : f = 0 ∧ run = []
  · obtain ⟨rfl, rfl⟩ := hs
    cases h : isAlnum x <;> simp [Except.map, h]
  · have hb : (f == 0 && run.length == 0) = false := by simpa [List.length_eq_zero_iff] using hs
    have hn : ¬ (f = 0 ∧ run = [] ∧ isAlnum x = true) := fun h => hs ⟨h.1, h.2.1⟩
    simp [hb, hn]

/-- `::` as one token: two more fields, the second of them the null field; no third colon -/
theorem ipv6Loop_dc (r : List Nat) (f nf : Nat) (run : List Nat) :
    ipv6Loop (58 :: 58 :: r) lit f nf run 0 =
      if f + 2 > 7 then .ok false
      else if nf > 0 then .ok false
      else if r.headD 93 = 58 then .ok false
      else ipv6Loop r lit (f + 2) (f + 1) [] 0 := by
  -- the look-ahead at the very start sees the second colon; the second colon is not at the start
  have h1 : ¬ (f = 0 ∧ run = [] ∧ isAlnum ((58 :: r).headD 93) = true) := fun h => absurd h.2.2 (by rw [List.headD_cons]; decide)
  have h2 : ¬ (f + 1 = 0 ∧ ([] : List Nat) = [] ∧ isAlnum (r.headD 93) = true) := fun h => absurd h.1 (Nat.succ_ne_zero f)
  rw [ipv6Loop_colon, if_neg h1, List.headD_cons, if_pos rfl, ipv6Loop_colon, if_neg h2]
  by_cases h7 : f + 2 > 7
  · simp only [h7, if_true, ite_self]
  · have h6 : ¬ f + 1 > 7 := by omega
    simp only [h7, h6, if_false, Nat.succ_pos, if_true]

theorem spanHex_run : ∀ (g : List Nat) (x : Nat) (xs : List Nat), g.all isHex = true → isHex x = false →
    spanHex (g ++ x :: xs) = some g.length
  | [], x, xs, _, hx => by simp [spanHex, hx]
  | c :: g, x, xs, hg, hx => by
    simp only [List.all_cons, Bool.and_eq_true] at hg
    simp [spanHex, hg.1, spanHex_run g x xs hg.2 hx]

theorem isHex_ne {c : Nat} (h : isHex c = true) : (c == 0) = false ∧ (c == 46) = false ∧ (c == 58) = false := by
  refine ⟨?_, ?_, ?_⟩ <;> (rw [beq_eq_false_iff_ne]; rintro rfl; exact absurd h (by decide))

/-- a maximal run of 1–4 hexadecimal digits is consumed as one group -/
theorem ipv6Loop_run (g rest : List Nat) (f nf : Nat) (run : List Nat) (hg : g.all isHex = true) (hne : g ≠ [])
    (hr : isHex (rest.headD 93) = false) :
    ipv6Loop (g ++ rest) lit f nf run 0 = if g.length > 4 then .ok false else ipv6Loop rest lit f nf g 0 := by
  cases g with
  | nil => exact absurd rfl hne
  | cons c g' =>
    have hc : isHex c = true := by simp only [List.all_cons, Bool.and_eq_true] at hg; exact hg.1
    obtain ⟨e0, e46, e58⟩ := isHex_ne hc
    obtain ⟨xs, hm⟩ : ∃ xs, rest ++ lit = rest.headD 93 :: xs := by cases rest <;> simp
    have hw : c :: (g' ++ rest) ++ lit = (c :: g') ++ (rest ++ lit) := by simp
    have hsp : spanHex (c :: (g' ++ rest) ++ lit) = some (g'.length + 1) := by
      rw [hw, hm, spanHex_run (c :: g') _ xs hg hr]; rfl
    simp only [List.cons_append]
    rw [ipv6Loop]
    simp only [Nat.lt_irrefl, if_false, e0, e46, e58, Bool.false_eq_true, hsp]
    by_cases h4 : g'.length + 1 > 4
    · simp [h4]
    · have hz : ¬ (g'.length + 1 = 0) := by omega
      have ht : (c :: (g' ++ rest) ++ lit).take (g'.length + 1) = c :: g' := by
        rw [hw]; exact List.take_left (l₁ := c :: g')
      simp only [h4, if_false, List.length_cons, ht]
      simp only [beq_iff_eq, hz, if_false, Nat.add_sub_cancel]
      exact ipv6Loop_skip lit f nf (c :: g') g' rest

theorem ipv6Loop_other (c : Nat) (cs : List Nat) (f nf : Nat) (run : List Nat)
    (h0 : c ≠ 0) (h46 : c ≠ 46) (h58 : c ≠ 58) (hx : isHex c = false) :
    ipv6Loop (c :: cs) lit f nf run 0 = .ok false := by
  rw [ipv6Loop]
  simp [h0, h46, h58, spanHex, hx]

theorem hex_split (cs : List Nat) : ∃ g rest, cs = g ++ rest ∧ g.all isHex = true ∧ isHex (rest.headD 93) = false := by
  induction cs with
  | nil => exact ⟨[], [], rfl, rfl, rfl⟩
  | cons c cs ih =>
    by_cases hc : isHex c = true
    · obtain ⟨g, rest, h1, h2, h3⟩ := ih
      exact ⟨c :: g, rest, by simp [h1], by simp [hc, h2], h3⟩
    · exact ⟨[], c :: cs, rfl, rfl, by simpa using hc⟩

end Eav
