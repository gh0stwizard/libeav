import Eav.Local
import Eav.Lemmas.Utf8
/-!
# `is_6531_local` as written (`loc6531LoopC`: dot tests on the previous character) equals the form that shares
`unquotedStep` with the other scanners (`loc6531Loop`: dot tests on the next byte) — return codes included
-/
namespace Eav
open Eav.Spec

theorem unquotedStep6_eq {ex : List Nat} {prev : Option Nat} {c : Nat} {cs : List Nat} (h : c ≠ 46) :
    unquotedStep6 ex prev c cs = unquotedStep ex prev c cs := by
  have h' : (c == 46) = false := by simpa using h
  unfold unquotedStep6 unquotedStep
  simp only [h', Bool.false_eq_true, if_false]

/-- in an unquoted position a dot is never followed by a dot: the look-ahead scanner has already stopped -/
def DotInv (prev : Option Nat) (q : Bool) (inp : List Nat) : Prop :=
  q = false → prev = some 46 → inp.head? ≠ some 46

theorem loc6531C_eq_loop (b : LBuild) : ∀ (n : Nat) (inp : List Nat), inp.length ≤ n →
    ∀ (prev : Option Nat) (q qp : Bool), DotInv prev q inp →
    loc6531LoopC b prev q qp inp = loc6531Loop b prev q qp inp := by
  intro n
  induction n with
  | zero =>
    intro inp h prev q qp _
    have : inp = [] := List.length_eq_zero_iff.mp (by omega)
    subst this
    rw [loc6531LoopC.eq_def, loc6531Loop.eq_def]; simp [decodeNext]
  | succ n ih =>
    intro inp h prev q qp hinv
    rw [loc6531LoopC.eq_def, loc6531Loop.eq_def]
    cases hd : decodeNext inp with
    | fin => rfl
    | err => rfl
    | ch c rest =>
      have hl : rest.length ≤ n := by have := decodeNext_length hd; omega
      obtain ⟨hlo, hhi⟩ := decodeNext_head hd
      simp only
      by_cases h46 : c = 46
      · subst h46
        have hhead : inp.head? = some 46 := hlo (by omega)
        have e1 : ¬ (46 : Nat) > 127 := by omega
        have e2 : isCntrl 46 = false := by decide
        have e3 : ((46 : Nat) == 34) = false := by decide
        have e4 : ((46 : Nat) == 92) = false := by decide
        have e5 : blanks.contains 46 = false := by decide
        simp only [e1, if_false, e2, Bool.and_false, Bool.false_eq_true, e3, e4, e5, hhead]
        cases q with
        | true =>
          have IH := fun qp' => ih rest hl (some 46) true qp' (fun h => by cases h)
          simp only [Bool.not_true, Bool.false_eq_true, if_false, IH]
        | false =>
          simp only [Bool.not_false, if_true]
          -- by the invariant the previous character is not a dot
          have hprev : prev ≠ some 46 := fun hp => hinv rfl hp hhead
          have hp' : (prev == some 46) = false := by simpa using hprev
          unfold unquotedStep6 unquotedStep
          simp only [e3, Bool.false_eq_true, if_false, beq_self_eq_true, if_true, hp']
          by_cases hm : (prev == none || rest.isEmpty) = true
          · simp only [hm, if_true]
          · simp only [hm, Bool.false_eq_true, if_false]
            by_cases hnext : (rest.head? == some 46) = true
            · -- `..`: the look-ahead form stops here, the C form at the next character
              simp only [hnext, if_true]
              have hr : rest.head? = some 46 := by simpa using hnext
              obtain ⟨rest', hrest⟩ : ∃ rest', rest = 46 :: rest' := by
                cases rest with
                | nil => simp at hr
                | cons x xs => simp at hr; exact ⟨xs, by rw [hr]⟩
              subst hrest
              rw [loc6531LoopC.eq_def]
              have hd2 : decodeNext (46 :: rest') = .ch 46 rest' := by simp [decodeNext]
              split
              · rename_i h'; rw [hd2] at h'; cases h'
              · rename_i h'; rw [hd2] at h'; cases h'
              · rename_i c2 r2 h'
                rw [hd2] at h'; cases h'
                simp only [e1, if_false, e2, Bool.and_false, Bool.false_eq_true, Bool.not_false, if_true]
                unfold unquotedStep6
                simp only [e3, Bool.false_eq_true, if_false, beq_self_eq_true, if_true]
            · simp only [hnext, Bool.false_eq_true, if_false]
              have hr : rest.head? ≠ some 46 := by simpa using hnext
              exact ih rest hl (some 46) false qp (fun _ _ => hr)
      · -- any other character: the two step functions coincide, and the next position satisfies the invariant
        have hne : inp.head? ≠ some 46 := by
          intro hh
          by_cases hlt : c < 128
          · have := hlo hlt; rw [this] at hh; exact h46 (by simpa using hh)
          · obtain ⟨L, hL, hge⟩ := hhi (by omega)
            rw [hL] at hh
            simp only [Option.some.injEq] at hh
            omega
        have IH := fun q' qp' => ih rest hl inp.head? q' qp' (fun _ hp => absurd hp hne)
        simp only [unquotedStep6_eq h46, IH]

/-- **the scanner as written is the scanner the theorems are about** -/
theorem is6531LocalC_eq (b : LBuild) (s : List Nat) : is6531LocalC b s = is6531Local b s := by
  unfold is6531LocalC is6531Local
  split
  · rfl
  · exact loc6531C_eq_loop b _ s (Nat.le_refl _) none false false (fun _ h => by cases h)

end Eav
