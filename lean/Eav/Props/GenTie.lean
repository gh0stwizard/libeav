import Eav.Props.Tie.Enums
import Eav.Props.Tie.Errors
import Eav.Props.Tie.Special
import Eav.Props.Tie.Scanners
import Eav.Props.Tie.Build
import Eav.Props.Tie.Init
import Eav.Props.Tie.Globals
/-!
The translator-tie theorems: data extracted from the source tree on this run equals what the model assumes.  They are closed by
kernel evaluation on `Eav/Gen/Enums.lean`, which `tools/extract.py` regenerates from /repo's working tree before every build, and
live in `Eav/Props/Tie/*.lean`, one module per topic, so that a change to one part of the tree only breaks the obligations of the
properties that rest on that part.
-/
