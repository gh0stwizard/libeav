import Eav.Model
import Eav.Lemmas.Utf8
import Eav.Lemmas.LocalScan
/-!
# C03 — RFC 6531 local part (default build): strict UTF-8 plus the RFC 5321 grammar, nothing else

`is6531Local {}` is the model of `src/is_6531_local.c` built without options, driving the model of
`src/utf8_decode.c`.  `Spec.IsUtf8Of cps s`: `s` is the shortest-form encoding of the scalar values `cps`.
`Spec.collapse` reads every non-ASCII character as one symbol `≥ 128`; `Spec.IsLocal .m6531` is the RFC 5321
grammar with that symbol admitted as atom / quoted-text character (never after a backslash).
-/
namespace Eav.Props.C03
open Eav Eav.Spec

/-- **the decoder**: a string decodes iff it is well-formed UTF-8 — no overlong forms, surrogates,
code points above U+10FFFF, stray or missing continuation bytes — and then to exactly its scalar values -/
theorem utf8_iff (s cps : List Nat) : decAll s = some cps ↔ IsUtf8Of cps s := decAll_iff s cps

/-- **C03** for every byte string -/
theorem local6531_iff (s : List Nat) :
    is6531Local {} s = 0 ↔ ∃ cps, IsUtf8Of cps s ∧ IsLocal .m6531 (collapse cps) :=
  (is6531Local_iff s).trans (exists_congr fun cps => and_congr (decAll_iff s cps) (specLocal_iff _ _))

/-- ill-formed UTF-8 is never accepted -/
theorem invalid_utf8_rejected (s : List Nat) (h : ¬ IsUtf8 s) : is6531Local {} s ≠ 0 := by
  intro h0
  obtain ⟨cps, h1, _⟩ := (local6531_iff s).mp h0
  exact h ⟨cps, h1⟩

/-- on pure-ASCII local parts modes 6531 and 5321 return the same code: the two scanners differ only in how they read characters -/
theorem ascii_same_code (s : List Nat) (hn : NulFree s) (h : ∀ b ∈ s, b < 128) : is6531Local {} s = is5321Local s := by
  rw [is6531Local_eq, is5321Local_eq]
  exact congrArg _ (scan_ascii .m5321 none false false s fun c hc => ⟨Nat.le_of_lt_succ (h c hc), hn c hc⟩)

/-- on pure-ASCII local parts modes 6531 and 5321 decide identically -/
theorem ascii_agrees_5321 (s : List Nat) (hn : NulFree s) (h : ∀ b ∈ s, b < 128) :
    is6531Local {} s = 0 ↔ is5321Local s = 0 := by
  rw [ascii_same_code s hn h]

/-- `a.X.b` is accepted for every non-ASCII character `X` -/
theorem nonascii_between_dots (X : Nat) (hv : validScalar X = true) (hX : X ≥ 128) :
    is6531Local {} ([97, 46] ++ utf8Enc X ++ [46, 98]) = 0 := by
  rw [local6531_iff]
  refine ⟨[97, 46, X, 46, 98], ⟨?_, ?_⟩, ?_⟩
  · intro cp hcp
    simp only [List.mem_cons, List.mem_nil_iff, or_false] at hcp
    rcases hcp with rfl | rfl | rfl | rfl | rfl <;> first | exact hv | decide
  · simp [utf8Enc]
  · have : collapse [97, 46, X, 46, 98] = [97, 46, 128, 46, 98] := by
      simp [collapse]; omega
    rw [this, ← specLocal_iff]; decide

/-! ### non-vacuity and the cases named in the property -/

example : is6531Local {} [208, 150] = 0 := by decide +kernel                              -- Ж
example : is6531Local {} [97, 34, 98, 34] = -9 := by decide +kernel                       -- a"b"
example : is6531Local {} [208, 150, 34, 98, 34] = -9 := by decide +kernel                 -- Ж"b"
example : is6531Local {} [97, 46, 208, 150, 46, 98] = 0 := by decide +kernel              -- a.Ж.b
example : is6531Local {} [34, 92, 208, 150, 97, 34] = -6 := by decide +kernel             -- "\Жa"
example : is6531Local {} [192, 128] = -15 := by decide +kernel                            -- overlong
example : is6531Local {} [237, 160, 128] = -15 := by decide +kernel                       -- surrogate
example : is6531Local {} [244, 144, 128, 128] = -15 := by decide +kernel                  -- above U+10FFFF
example : is6531Local {} [128] = -15 := by decide +kernel                                 -- stray continuation byte
example : is6531Local {} [208] = -15 := by decide +kernel                                 -- missing continuation byte
example : is6531Local {} [34, 97, 34, 208, 150] = -9 := by decide +kernel                 -- "a"Ж

end Eav.Props.C03
