import Eav.Model
import Eav.Gen.Enums
/-! Translator tie (Makefile option defaults): data extracted from the source tree on this run equals what the model assumes. -/
namespace Eav.Props.GenTie
open Eav

/-- Makefile: all three options default to OFF and `ON` defines the macro of the same name -/
theorem buildOpts_eq : Gen.buildOpts =
    [("RFC6531_FOLLOW_RFC5322", "OFF", "ON", "RFC6531_FOLLOW_RFC5322"), ("RFC6531_FOLLOW_RFC20", "OFF", "ON", "RFC6531_FOLLOW_RFC20"),
     ("LABELS_ALLOW_UNDERSCORE", "OFF", "ON", "LABELS_ALLOW_UNDERSCORE")] := rfl

end Eav.Props.GenTie
