import Eav.Model
import Eav.Gen.Enums
/-! Translator tie (enum values and limits): data extracted from the source tree on this run equals what the model assumes. -/
namespace Eav.Props.GenTie
open Eav

/-- `enum { EEAV_* }` of include/eav.h: names, order and values -/
theorem errEnum_eq : Gen.errEnum = (E.names.zip (List.range 37)).map (fun p => (p.1, (p.2 : Int))) := rfl

theorem tldTypeEnum_eq : Gen.tldTypeEnum = (T.names.zip (List.range 11)).map (fun p => (p.1, (p.2 : Int))) := rfl

/-- `EAV_TLD_x = 1 << (TLD_TYPE_x + 1)`: the bit of a class -/
theorem tldBitEnum_eq : Gen.tldBitEnum =
    [("EAV_TLD_INVALID", 2), ("EAV_TLD_NOT_ASSIGNED", 4), ("EAV_TLD_COUNTRY_CODE", 8), ("EAV_TLD_GENERIC", 16),
     ("EAV_TLD_GENERIC_RESTRICTED", 32), ("EAV_TLD_INFRASTRUCTURE", 64), ("EAV_TLD_SPONSORED", 128),
     ("EAV_TLD_TEST", 256), ("EAV_TLD_SPECIAL", 512), ("EAV_TLD_RETIRED", 1024)] := rfl

theorem rfcEnum_eq : Gen.rfcEnum = [("EAV_RFC_822", 0), ("EAV_RFC_5321", 1), ("EAV_RFC_5322", 2), ("EAV_RFC_6531", 3)] := rfl

/-- every limit the tree defines has the value the model assumes, and the four public ones are all there
(`LABEL_SIZE` exists only while `is_special_domain` copies labels into a buffer) -/
theorem limits_eq : Gen.limits.all (fun kv => [("DOMAIN_SIZE", Lim.DOMAIN_SIZE), ("LABEL_SIZE", Lim.LABEL_SIZE),
      ("VALID_HOSTNAME_LEN", Lim.VALID_HOSTNAME_LEN), ("VALID_LABEL_LEN", Lim.VALID_LABEL_LEN), ("VALID_LPART_LEN", Lim.VALID_LPART_LEN)].contains kv) = true ∧
    ["DOMAIN_SIZE", "VALID_HOSTNAME_LEN", "VALID_LABEL_LEN", "VALID_LPART_LEN"].all (fun k => (Gen.limits.map (·.1)).contains k) = true := by decide +kernel

end Eav.Props.GenTie
