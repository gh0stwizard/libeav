import Eav.Model
import Eav.Gen.Enums
/-! Translator tie (reserved-domain tables): data extracted from the source tree on this run equals what the model assumes. -/
namespace Eav.Props.GenTie
open Eav

/-- the tables are searched for any matching row, so their order does not matter: same rows -/
def sameRows (a b : List (List Nat × Nat)) : Bool := a.all b.contains && b.all a.contains && a.length == b.length
/-- the names the model assumes, as a set -/
def modelNames : List (List Nat) := (Eav.reservedTable.map (·.1)) ++ (Eav.exampleTable.map (·.1)) ++ [Eav.exampleLabel]
def sameNames (a b : List (List Nat)) : Bool := a.all b.contains && b.all a.contains
/-- `reserved[]` / `example[]` as written in the source, when they are written as `{ "name", len }` rows; whatever their
spelling, the string literals of the compiled function are exactly the model's names -/
theorem reserved_eq : (Gen.reservedTable = [] ∨ sameRows Gen.reservedTable Eav.reservedTable = true) ∧
    sameNames Gen.specialObjStrings modelNames = true := by decide +kernel
theorem example_eq : (Gen.exampleTable = [] ∨ sameRows Gen.exampleTable Eav.exampleTable = true) ∧
    sameNames Gen.specialObjStrings modelNames = true := by decide +kernel
/-- the `strncasecmp ("example", label, 8)` test and the two length filters, where the source spells them that way
(`([], 0)` / no entry otherwise: they are then covered by the correspondence alone) -/
theorem exampleLabel_eq : Gen.exampleLabel = (Eav.exampleLabel, 8) ∨ Gen.exampleLabel = ([], 0) := by decide +kernel
theorem lenFilter_eq : Gen.specialLenFilters.all (· == (4, 9, 6, 8)) = true := by decide +kernel

end Eav.Props.GenTie
