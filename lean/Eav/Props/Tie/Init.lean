import Eav.Model
import Eav.Gen.Enums
/-! Translator tie (eav_init and eav_setup): data extracted from the source tree on this run equals what the model assumes. -/
namespace Eav.Props.GenTie
open Eav

/-- `eav_init` writes every field of a poisoned `eav_t` … -/
theorem init_sets_all : Gen.initFieldsSet.all (·.2) = true := by decide +kernel
theorem init_fields : Gen.initFieldsSet.map (·.1) =
    ["rfc", "allow_tld", "tld_check", "utf8", "errcode", "idnmsg", "initialized", "utf8_cb", "ascii_cb", "result"] := rfl

/-- … with the values of the model's `eavInit` -/
theorem init_values : Gen.initValues =
    (match (eavInit {}).obj with
     | some e => [("rfc", e.rfc), ("allow_tld", (e.allowTld : Int)), ("tld_check", if e.tldCheck then 1 else 0),
                  ("utf8", if e.utf8 then 1 else 0), ("errcode", (e.errcode : Int)),
                  ("idnmsg_null", if e.idnmsg.isNone then 1 else 0), ("initialized", if e.initialized then 1 else 0),
                  ("utf8_cb_null", if e.utf8Cb then 0 else 1), ("ascii_cb_null", if e.asciiCb.isNone then 1 else 0),
                  ("result_null", if e.result.isNone then 1 else 0)]
     | none => []) := rfl

/-- what the model's `eav_setup` does for a raw `rfc` value, in the vocabulary of the dump -/
def setupRow (rfc : Int) : Int × Int × Int × String × String × Int :=
  match (eavInit {}).obj with
  | none => (rfc, -1, 0, "", "", 0)
  | some e0 =>
    match eavSetup .idn2 { obj := some { e0 with rfc := rfc } } with
    | .ok (st, rc) =>
      (match st.obj with
       | some e => (rfc, rc, if e.utf8 then 1 else 0,
                    match e.asciiCb with
                    | some .m822 => "is_822_email" | some .m5321 => "is_5321_email" | some .m5322 => "is_5322_email"
                    | some .m6531 => "other" | none => "unchanged",
                    if e.utf8Cb then "is_6531_email" else "unchanged", (e.errcode : Int))
       | none => (rfc, -1, 0, "", "", 0))
    | .error _ => (rfc, -1, 0, "", "", 0)

/-- `eav_setup` of the compiled library selects, for each mode and for invalid values, what the model says -/
theorem setup_eq : Gen.setupTable = [0, 1, 2, 3, -1, 4, 7, 1000].map setupRow := rfl

end Eav.Props.GenTie
