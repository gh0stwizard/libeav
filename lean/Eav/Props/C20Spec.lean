import Eav.Props.C20Main
import Eav.Props.C03
/-!
# C20 against the specification: a PASS printed by the `eav` tool is about a well-formed address

`C20Main` shows that what the tool prints for a line is the library's decision for that line alone.  Here that decision is
connected to the declarative specifications of the other properties, for the default build the tool is made from: a `PASS`
block is only ever printed for a line `L@D` whose `L` the specification of C03 accepts (`Spec.IsLocal .m6531`: the RFC 5321
local-part grammar with non-ASCII characters as atom / quoted text), and a `FAIL` block always carries a message line.
-/
namespace Eav.Props.C20
open Eav Eav.Spec

/-- a record whose code is not negative was produced by the domain branch: the address is `l@d`, split at the last `@`,
with `d` non-empty, `l` at most 64 octets and accepted by the scanner of the mode -/
theorem accepted_shape (b : Build) (conv : List Nat → Conv) (m : Mode) (s : List Nat) (tld : Bool) (r : Result)
    (h : isEmail b conv m s tld = .ok r) (hrc : 0 ≤ r.rc) :
    ∃ l d, s = l ++ 64 :: d ∧ 64 ∉ d ∧ d ≠ [] ∧ l.length ≤ Lim.VALID_LPART_LEN ∧ localOf b m l = 0 := by
  rcases isEmail_record h with ⟨e, irc, he, rfl⟩ | ⟨L, D, hs, hD, hne, hlen, hl, _⟩
  · exact absurd hrc (by simp only; omega)
  · exact ⟨L, D, hs, hD, hne, hlen, hl⟩

/-- `eav_is_email` returns non-zero only for a record with a non-negative code -/
theorem verdict_pass_nonneg (mask : Nat) (r : Result) (ret : Int) (ec : Nat) (im : Option Int)
    (h : verdictOf mask r = .ok (ret, ec, im)) (hret : ret ≠ 0) : 0 ≤ r.rc := by
  rcases verdictOf_ok_cases h with ⟨h0, _⟩ | ⟨_, rfl, _⟩ | ⟨h1, _⟩
  · omega
  · exact absurd rfl hret
  · omega

/-- **a PASS is about a well-formed address**: whenever the block the tool prints for a line is a PASS block, the line is `L@D`
(split at the last `@`) with `1 ≤ |L| ≤ 64`, `D` not empty, and `L` well-formed UTF-8 satisfying the local-part grammar of mode 6531 -/
theorem pass_sound (t : Texts) (convOf : List Nat → Conv) (a blk : List Nat) (h : specBlock {} t convOf a = .ok (blk, true)) :
    ∃ L D, a = L ++ 64 :: D ∧ 64 ∉ D ∧ D ≠ [] ∧ 1 ≤ L.length ∧ L.length ≤ 64 ∧
      ∃ cps, IsUtf8Of cps L ∧ IsLocal .m6531 (collapse cps) := by
  -- open `specBlock` and `outcomeOf` along their branches: only the one in which every step returned can print a block
  revert h
  fun_cases specBlock {} t convOf a
  case case3 ret ec im r hout blk' hb =>
    revert hout
    fun_cases C13.outcomeOf {} (convOf a) .m6531 true defaultMask a
    case case3 r' hr' ret' ec' im' hv =>
      intro hout h
      cases hout
      have hret : ret ≠ 0 := by simpa using (Prod.mk.inj (Except.ok.inj h)).2
      obtain ⟨l, d, hs, hnd, hd, hlen, hloc⟩ :=
        accepted_shape {} _ .m6531 a true r hr' (verdict_pass_nonneg _ _ _ _ _ hv hret)
      exact ⟨l, d, hs, hnd, hd, List.length_pos_iff.mpr fun e => C01.localOf_nil_ne _ _ (e ▸ hloc), hlen,
        (C03.local6531_iff l).mp hloc⟩
    all_goals nofun
  all_goals nofun

/-- a FAIL block always carries a message line: the block is `FAIL: <echo>\n      <message>\n` for some message text -/
theorem fail_has_message (b : Build) (t : Texts) (convOf : List Nat → Conv) (a blk : List Nat)
    (h : specBlock b t convOf a = .ok (blk, false)) :
    ∃ msg, blk = sFAIL ++ sanitize a ++ [10] ++ sIndent ++ msg ++ [10] := by
  revert h
  fun_cases specBlock b t convOf a
  case case3 ret ec im r hout blk' hb =>
    intro h
    obtain ⟨rfl, hret⟩ := Prod.mk.inj (Except.ok.inj h)
    revert hb
    fun_cases lineBlock t a ret (msgOf ec im)
    case case1 hne => simp [hne] at hret
    case case2 => nofun
    case case3 m hm => intro hb; exact ⟨m, (Except.ok.inj hb).symm⟩
  all_goals nofun

end Eav.Props.C20
