import Eav.Model
import Eav.Props.C13
/-!
# C18 — the IDN back end (libidn2 / libidn / idnkit) changes no decision and leaks no resource

In the model the three `partial/<backend>/is_6531_email.c` / `is_utf8_domain.c` are ONE definition (`isEmail`,
`isUtf8Domain`, parameterised by the conversion result); that the three source sets really behave alike is what
the correspondence check establishes by building all three against one converter.  `partial/<backend>/eav.c`
differs in the idnkit context handling only (`Backend` parameter of `eavSetup` / `eavFree`): proved here to be
unobservable, and balanced.
-/
namespace Eav.Props.C18
open Eav

/-- two objects of different builds that went through the same calls: same fields, same record ledger -/
def Same (s1 s2 : State) : Prop :=
  s1.obj = s2.obj ∧ s1.liveResults = s2.liveResults ∧ s1.freedResults = s2.freedResults

/-- the same replacement of the object on both sides keeps the states corresponding -/
theorem same_of_post {be1 be2 : Backend} {s1 s2 t1 t2 : State} {e' : EavT} (hs : Same s1 s2)
    (p1 : C13.Post be1 s1 e' t1) (p2 : C13.Post be2 s2 e' t2) : Same t1 t2 :=
  ⟨p1.1.trans p2.1.symm, by rw [p1.2.1, p2.2.1, hs.2.1], by rw [p1.2.2.1, p2.2.2.1, hs.2.2]⟩

theorem setupAscii_agree (be1 be2 : Backend) (s1 s2 : State) (e : EavT) (m : Mode)
    (hs : Same s1 s2) (h1 : C13.Inv be1 s1) (h2 : C13.Inv be2 s2) (ho : s1.obj = some e)
    (t1 : State) (rc : Int) (h : setupAscii be1 s1 e m = .ok (t1, rc)) :
    ∃ t2, setupAscii be2 s2 e m = .ok (t2, rc) ∧ Same t1 t2 := by
  obtain ⟨u1, hu1, p1⟩ := C13.setupAscii_spec m h1 ho
  obtain ⟨u2, hu2, p2⟩ := C13.setupAscii_spec m h2 (hs.1 ▸ ho)
  rw [hu1] at h; cases h
  exact ⟨u2, hu2, same_of_post hs p1 p2⟩

theorem setup6531_agree (be1 be2 : Backend) (s1 s2 : State) (e : EavT)
    (hs : Same s1 s2) (t1 : State) (rc : Int) (h : setup6531 be1 s1 e = .ok (t1, rc)) :
    ∃ t2, setup6531 be2 s2 e = .ok (t2, rc) ∧ Same t1 t2 := by
  obtain ⟨u1, hu1, o1, l1, f1, _⟩ := setup6531_ok be1 s1 e
  obtain ⟨u2, hu2, o2, l2, f2, _⟩ := setup6531_ok be2 s2 e
  rw [hu1] at h; cases h
  exact ⟨u2, hu2, o1.trans o2.symm, by rw [l1, l2, hs.2.1], by rw [f1, f2, hs.2.2]⟩

theorem eavSetup_agree (be1 be2 : Backend) (s1 s2 : State) (hs : Same s1 s2) (h1 : C13.Inv be1 s1) (h2 : C13.Inv be2 s2)
    (t : State) (rc : Int) (hsu : eavSetup be1 s1 = .ok (t, rc)) :
    ∃ t2, eavSetup be2 s2 = .ok (t2, rc) ∧ Same t t2 := by
  obtain ⟨e, ho, rfl, p1⟩ := C13.eavSetup_post h1 hsu
  obtain ⟨u2, hu2, p2⟩ := C13.eavSetup_spec h2 (hs.1 ▸ ho)
  exact ⟨u2, hu2, same_of_post hs p1 p2⟩

/-- **the back end is unobservable**: from corresponding states every operation gives the same observation
(return codes, verdict, error code, message, result record) and corresponding states again -/
theorem backends_agree (be1 be2 : Backend) (b : Build) (s1 s2 : State) (op : Op)
    (hs : Same s1 s2) (h1 : C13.Inv be1 s1) (h2 : C13.Inv be2 s2)
    (hop : ∀ r, op ≠ .setupFail r)          -- a context that cannot be created is an event of ONE back end, not an operation of the caller
    (t1 : State) (o : Out) (h : step be1 b s1 op = .ok (t1, o)) :
    ∃ t2, step be2 b s2 op = .ok (t2, o) ∧ Same t1 t2 := by
  cases op with
  | setupFail r => exact absurd rfl (hop r)
  | init =>
    cases h
    exact ⟨_, rfl, rfl, hs.2.1, hs.2.2⟩
  | setRfc _ | setTld _ | setMask _ =>
    obtain ⟨e, ho, rfl, rfl⟩ := (step_store_iff rfl).mp h
    exact ⟨_, (step_store_iff rfl).mpr ⟨e, hs.1 ▸ ho, rfl, rfl⟩, rfl, hs.2.1, hs.2.2⟩
  | errstr =>
    obtain ⟨m, hm, rfl, rfl⟩ := step_errstr_iff.mp h
    exact ⟨s2, step_errstr_iff.mpr ⟨m, eavErrstr_congr hs.1 ▸ hm, rfl, rfl⟩, hs⟩
  | setup =>
    obtain ⟨rc, hsu, rfl⟩ := step_setup_iff.mp h
    obtain ⟨t2, h2', hsame⟩ := eavSetup_agree be1 be2 s1 s2 hs h1 h2 t1 rc hsu
    exact ⟨t2, step_setup_iff.mpr ⟨rc, h2', rfl⟩, hsame⟩
  | isEmail a c =>
    obtain ⟨e, ho⟩ := step_obj h nofun
    obtain ⟨ret, m, e', r, he, hm, ho', hr, rfl⟩ := step_isEmail_iff.mp h
    -- both calls run the same callback on the same settings; each leaves its one new record live
    obtain ⟨md, r', ec, msg, hsel, hi, hv, rfl⟩ := (C13.eavIsEmail_ok_iff h1 ho).mp he
    have he2 := (C13.eavIsEmail_ok_iff h2 (hs.1 ▸ ho)).mpr ⟨md, r', ec, msg, hsel, hi, hv, rfl⟩
    exact ⟨_, step_isEmail_iff.mpr ⟨ret, m, e', r, he2, eavErrstr_congr (s2 := _) rfl ▸ hm, ho', hr, rfl⟩,
      rfl, rfl, congrArg (· + (if e.result.isSome then 1 else 0)) hs.2.2⟩
  | free =>
    obtain ⟨e, ho⟩ := step_obj h nofun
    obtain ⟨hf, rfl⟩ := step_free_iff.mp h
    obtain ⟨u1, hu1, o1, r1, f1, _⟩ := C13.free_spec h1 ho
    obtain ⟨u2, hu2, o2, r2, f2, _⟩ := C13.free_spec h2 (hs.1 ▸ ho)
    rw [hu1] at hf; cases hf
    exact ⟨u2, step_free_iff.mpr ⟨hu2, rfl⟩, o1.trans o2.symm, by rw [r1.1, r2.1], by rw [f1, f2, hs.2.2]⟩

/-! ### the premises occur: two back ends in corresponding states -/

/-- after `eav_init; eav_setup` (mode 6531) the libidn2 and idnkit objects are `Same`, both satisfy the ledger invariant, and the idnkit one
holds a context the libidn2 one does not have -/
example : ∃ s1 s2, step .idn2 {} (eavInit {}) .setup = .ok (s1, .rc 0) ∧ step .idnkit {} (eavInit {}) .setup = .ok (s2, .rc 0) ∧
    Same s1 s2 ∧ C13.Inv .idn2 s1 ∧ C13.Inv .idnkit s2 ∧ s1.resconfLive = 0 ∧ s2.resconfLive = 1 := by
  refine ⟨_, _, rfl, rfl, ⟨rfl, rfl, rfl⟩, ?_, ?_, rfl, rfl⟩ <;> simp [C13.Inv, eavInit]

end Eav.Props.C18
