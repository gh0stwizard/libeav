import Eav.Model
import Eav.Lemmas.LocalGrammar
import Eav.Lemmas.LocalScan
/-!
# C02 — in modes 822, 5321 and 5322 a local part is accepted iff it is `word *("." word)`

`is822Local`, `is5321Local`, `is5322Local` are the models of `src/is_{822,5321,5322}_local.c`
(tied to the C code by the correspondence check); `Spec.IsLocal` is the declarative grammar of the
property (atoms, quoted strings with the mode's quoted content, RFC 822 folding, the RFC 5322 blank rule).
The theorems hold for every NUL-free byte string of every length.
-/
namespace Eav.Props.C02
open Eav Eav.Spec

theorem local_iff_5321 (s : List Nat) (hn : NulFree s) : is5321Local s = 0 ↔ IsLocal .m5321 s :=
  (is5321Local_iff s hn).trans (specLocal_iff .m5321 s)

/-- **mode 822**; the byte at `*end` (which the folding test may read) does not influence the decision -/
theorem local_iff_822 (s : List Nat) (endByte : Nat) (hn : NulFree s) : is822Local s endByte = 0 ↔ IsLocal .m822 s :=
  (is822Local_iff s endByte hn).trans (specLocal_iff .m822 s)

theorem local_iff_5322 (s : List Nat) (hn : NulFree s) : is5322Local s = 0 ↔ IsLocal .m5322 s :=
  (is5322Local_iff s hn).trans (specLocal_iff .m5322 s)

/-- every byte of an accepted string is read by some transition of the recogniser -/
theorem runFrom_mem {m : LMode} : ∀ (s : List Nat) (st : St), runFrom m st s = true →
    ∀ b ∈ s, ∃ st nx st', Trans m st b nx st'
  | c :: cs, st, h, b, hb => by
    obtain ⟨st', ht, hr⟩ := runFrom_cons_iff.mp h
    rcases List.mem_cons.mp hb with rfl | hb
    · exact ⟨st, _, st', ht⟩
    · exact runFrom_mem cs st' hr b hb

/-- no byte `≥ 0x80` is ever accepted in the ASCII modes: the recogniser has no transition on one -/
theorem no_high_byte {m : LMode} (hm : m ≠ .m6531) {s : List Nat} (h : IsLocal m s) : ∀ b ∈ s, b < 128 := by
  intro b hb
  obtain ⟨st, nx, st', ht⟩ := runFrom_mem s _ ((specLocal_iff m s).mpr h) b hb
  exact Nat.lt_succ_of_le (trans_ascii hm ht)

/-- a local part never starts with a dot and is never empty -/
theorem no_leading_dot {m : LMode} {s : List Nat} (h : IsLocal m s) : s.head? ≠ some 46 ∧ s ≠ [] := by
  obtain ⟨w, t, hw, _, rfl⟩ := local_inv m s h
  rcases hw with ⟨hne, hat⟩ | ⟨items, _, rfl, _⟩
  · -- an atom starts with an `atext` byte
    cases w with
    | nil => exact absurd rfl hne
    | cons x xs => simpa using (atext_ne (hat x (by simp))).2.1
  · simp

/-! ### non-vacuity, and the rejections the property names (kernel-evaluated on the models) -/

example : is5321Local [34, 97, 32, 98, 34, 46, 99] = 0 := by decide                   -- "a b".c
example : IsLocal .m5321 [34, 97, 32, 98, 34, 46, 99] := (local_iff_5321 _ (by intro c hc; simp at hc; omega)).mp (by decide)
example : is5321Local [34, 97, 98, 99, 34, 100, 101, 102] = -9 := by decide          -- "abc"def : atom glued to a quoted string
example : is822Local [34, 97, 98, 99, 34, 100, 101, 102] 64 = -9 ∧ is5322Local [34, 97, 98, 99, 34, 100, 101, 102] = -9 := by decide
example : is5321Local [97, 34, 98, 34] = -9 := by decide                              -- a"b" : quote inside an atom
example : is5321Local [34, 97] = -10 := by decide                                     -- "a   : unbalanced quote
example : is5321Local [97, 46, 46, 98] = -11 ∧ is5321Local [46, 97] = -12 ∧ is5321Local [97, 46] = -12 := by decide
example : is822Local [34, 97, 13, 10, 32, 98, 34] 64 = 0 ∧ is822Local [34, 97, 13, 98, 34] 64 = -14 := by decide    -- folding
example : is5322Local [34, 97, 32, 98, 34] = -13 ∧ is5322Local [34, 32, 97, 32, 34] = 0 ∧ is5321Local [34, 97, 32, 98, 34] = 0 := by decide
example : is5321Local [34, 92, 1, 34] = -8 ∧ is5322Local [34, 92, 1, 34] = 0 ∧ is822Local [34, 1, 34] 64 = 0 := by decide   -- controls
example : is5321Local [97, 128] = -6 := by decide

end Eav.Props.C02
