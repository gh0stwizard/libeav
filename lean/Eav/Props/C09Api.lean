import Eav.Model
import Eav.Props.C07
import Eav.Props.C09
import Eav.Lemmas.Email
/-!
# C09, seen from `check_tld`: class *special* is said of reserved names and of nothing else

The shipped table has no row of type *special* (`no_special_row`, a fact about the regenerated table), so with TLD checking on
the code 8 can only come from `is_special_domain` — for every valid host name, `check_tld` answers 8 exactly when the name is
reserved by RFC 2606 / 6761 / 7686.  (The local part plays no role: `check_tld` never sees it.)
-/
namespace Eav.Props.C09
open Eav Eav.Spec

/-- the regenerated table classifies no TLD as *special* -/
theorem no_special_row : (Gen.tldTable.all fun r => r.2.2 != T.SPECIAL) = true := by
  unfold Gen.tldTable; simp only [List.all_append]; decide +kernel

theorem isTld_ne_special (s : List Nat) : isTld s ≠ (T.SPECIAL : Int) := by
  rcases C07.isTld_cases s with ⟨h, _⟩ | ⟨r, hr, _, h, _⟩ <;> rw [h]
  · decide
  · have := List.all_eq_true.mp no_special_row r hr
    simp only [bne_iff_ne, ne_eq] at this
    exact fun hh => this (by exact_mod_cast hh)

/-- **class 8 ⇔ reserved**, for every valid host name without root dot -/
theorem special_class_iff_reserved (us : Bool) (d : List Nat) (h : HostOk us d) (hnr : d.getLast? ≠ some 46) :
    checkTld d true = .ok (T.SPECIAL : Int) ↔ reserved d = true := by
  have hs := special_iff_host us d h hnr
  refine ⟨fun hh => ?_, fun hr => checkTld_special (hr ▸ hs)⟩
  -- the three ways `check_tld` answers with checking on: only the first says 8
  rcases checkTld_ok_cases hh with ⟨h, _⟩ | ⟨_, hsp, _⟩ | ⟨_, _, ⟨_, ht⟩ | ⟨_, last, _, _, ht⟩⟩
  · cases h
  · exact Except.ok.inj (hs.symm.trans hsp)
  · cases ht
  · exact absurd ht.symm (isTld_ne_special last)

/-- with TLD checking off `check_tld` says 0, never a class -/
theorem tld_off_no_class (d : List Nat) : checkTld d false = .ok 0 := checkTld_off d

example : checkTld [120, 46, 116, 101, 115, 116] true = .ok 8 ∧ reserved [120, 46, 116, 101, 115, 116] = true ∧
          checkTld [99, 111, 110, 116, 101, 115, 116, 46, 99, 111, 109] true = .ok 3 ∧
          reserved [99, 111, 110, 116, 101, 115, 116, 46, 99, 111, 109] = false := by
  unfold checkTld isTld Gen.tldTable; simp only [↓List.append_assoc]; decide +kernel

end Eav.Props.C09
