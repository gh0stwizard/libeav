import Eav.Model
import Eav.Props.Tie.Globals
/-!
# C14 — concurrent validation equals sequential validation

What a proof can carry: the library's state is the caller-owned `eav_t` (here `State`) and constant
tables.  `Gen.mutableGlobals` lists every object with static storage that lives in a writable section
of the object files compiled from the tree on this run; `GenTie.no_mutable_globals` shows there is none,
so the component of the semantics shared between threads is empty (`Shared`), and a step of thread `i`
is a function of thread `i`'s own state only.  Then every interleaving gives each thread exactly the
observations of its own sequential run.  (Data races in the compiled code are a runtime fact: the
ThreadSanitizer half of the check covers them.)
-/
namespace Eav.Props.C14
open Eav

/-- memory shared between threads and written by the library: one field per mutable global — none -/
structure Shared where
  deriving DecidableEq

theorem shared_is_empty : Gen.mutableGlobals = [] := GenTie.no_mutable_globals

/-- the system: the shared memory and one private `eav_t` state per thread -/
structure Sys where
  shared : Shared := {}
  threads : List State

/-- a scheduled step: thread `i` performs `op` on its own object (a fault ends that thread's run) -/
def stepSys (be : Backend) (b : Build) (sys : Sys) (i : Nat) (op : Op) : Sys × Option Out :=
  match sys.threads[i]? with
  | none => (sys, none)
  | some st =>
    match step be b st op with
    | .ok (st', o) => ({ sys with threads := sys.threads.set i st' }, some o)
    | .error _ => (sys, none)

/-- run a schedule (a list of (thread, operation)), collecting (thread, observation) -/
def runSched (be : Backend) (b : Build) : Sys → List (Nat × Op) → List (Nat × Option Out)
  | _, [] => []
  | sys, (i, op) :: rest =>
    let (sys', o) := stepSys be b sys i op
    (i, o) :: runSched be b sys' rest

/-- thread `i` alone, performing its own operations in order -/
def runAlone (be : Backend) (b : Build) : State → List Op → List (Option Out)
  | _, [] => []
  | st, op :: rest =>
    match step be b st op with
    | .ok (st', o) => some o :: runAlone be b st' rest
    | .error _ => none :: runAlone be b st rest

theorem stepSys_other (be : Backend) (b : Build) (sys : Sys) (i j : Nat) (op : Op) (h : i ≠ j) :
    (stepSys be b sys j op).1.threads[i]? = sys.threads[i]? := by
  fun_cases stepSys be b sys j op <;> simp [h.symm]

/-- **schedule independence**: whatever the interleaving, the observations of thread `i` are those of
its own sequential run on the operations the schedule gives it -/
theorem sched_indep (be : Backend) (b : Build) (σ : List (Nat × Op)) :
    ∀ (sys : Sys) (i : Nat) (st : State), sys.threads[i]? = some st →
      ((runSched be b sys σ).filter (·.1 == i)).map (·.2) =
        runAlone be b st ((σ.filter (·.1 == i)).map (·.2)) := by
  induction σ with
  | nil => intros; rfl
  | cons hd rest ih =>
    intro sys i st hst
    obtain ⟨j, op⟩ := hd
    by_cases hj : j = i
    · subst hj
      simp only [runSched, stepSys, hst, List.filter_cons, beq_self_eq_true, if_true, List.map_cons, runAlone]
      cases hstep : step be b st op with
      | error e =>
        simp only
        rw [ih sys j st hst]
      | ok p =>
        obtain ⟨st', o⟩ := p
        simp only
        have hlen : j < sys.threads.length := by
          rcases List.getElem?_eq_some_iff.mp hst with ⟨h, _⟩; exact h
        rw [ih { sys with threads := sys.threads.set j st' } j st' (by simp [hlen])]
    · have hne : (j == i) = false := by simpa using hj
      simp only [runSched, List.filter_cons, hne, Bool.false_eq_true, if_false]
      have := stepSys_other be b sys i j op (fun h => hj h.symm)
      exact ih _ i st (by rw [this]; exact hst)

/-- non-vacuity: two threads, interleaved, both observe what they observe alone -/
def exEmail : Op := .isEmail [97, 64, 98, 46, 99, 111, 109] ⟨0, some [98, 46, 99, 111, 109]⟩
example :
    ((runSched .idn2 {} { threads := [{}, {}] }
        [(0, .init), (1, .init), (1, .setRfc 1), (0, .setup), (1, .setup), (0, exEmail), (1, .isEmail [120] ⟨0, none⟩)]).filter
          (·.1 == 0)).map (·.2) = runAlone .idn2 {} {} [.init, .setup, exEmail] := by
  decide +kernel

end Eav.Props.C14
