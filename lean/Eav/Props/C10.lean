import Eav.Model
import Eav.Props.C04
import Eav.Props.C07
import Eav.Props.C09
import Eav.Props.C19
/-!
# C10 — U-label and A-label spellings of a domain are treated identically

The IDNA2008 conversion is not modelled: `conv` is the IDN library's answer, recorded on every run and replayed
into the model.  What is proved is libeav's half, for EVERY possible library answer:

* `same_conversion_same_outcome`: two spellings the library converts to the same A-label get the same result
  code, class and flags in mode 6531 (hypothesis `H_same`: for an IDNA2008-valid domain the library maps the
  U-label spelling and the A-label spelling to the same string — validated on every recorded conversion);
* `ascii_modes_agree`: when the library answers an all-ASCII domain with its lower-case form (`H_ascii`, likewise
  validated), mode 6531 and the ASCII modes produce the same record; when it refuses it, the reason reported
  is the IDN error (`C19.idn_failure_rejected`).
-/
namespace Eav.Props.C10
open Eav

/-- mode 6531 looks at the domain only through the IDN library's answer -/
theorem same_conversion_same_outcome (b : Build) (conv : List Nat → Conv) (u a : List Nat) (tld : Bool)
    (hu : u ≠ []) (ha : a ≠ []) (h : conv u = conv a) :
    isUtf8Domain b conv u tld = isUtf8Domain b conv a tld := by
  simp only [isUtf8Domain, List.isEmpty_eq_false_iff.mpr hu, List.isEmpty_eq_false_iff.mpr ha, h]

/-! ### the ASCII validators are case-insensitive -/

/-- `tolower` moves `A`–`Z` to `a`–`z`: both are letters, neither range holds a digit, `.`, `-` or NUL -/
theorem toLower_class (us : Bool) (c : Nat) :
    labelChar us (toLower c) = labelChar us c ∧ isDigit (toLower c) = isDigit c ∧
    ((toLower c == 46) = (c == 46)) ∧ ((toLower c == 45) = (c == 45)) ∧ ((toLower c == 0) = (c == 0)) := by
  unfold toLower
  cases hU : isUpper c
  · exact ⟨rfl, rfl, rfl, rfl, rfl⟩
  · have hc : 65 ≤ c ∧ c ≤ 90 := by simpa [isUpper] using hU
    have hL : isLower (c + 32) = true := by simp only [isLower, Bool.and_eq_true, decide_eq_true_eq]; omega
    have hne : ∀ k, k < 48 → ((c + 32 == k) = (c == k)) := fun k hk => by
      rw [Bool.eq_iff_iff, beq_iff_eq, beq_iff_eq]; omega
    have hd : ∀ x, 65 ≤ x → isDigit x = false := fun x hx => by
      simp only [isDigit, Bool.and_eq_false_iff, decide_eq_false_iff_not]; omega
    refine ⟨?_, ?_, hne 46 (by decide), hne 45 (by decide), hne 0 (by decide)⟩
    · simp only [if_true, labelChar, isAlnum, isAlpha, hL, hU, Bool.or_true, Bool.true_or]
    · simp only [if_true, hd c hc.1, hd (c + 32) (by omega)]

theorem peek_lower (cs after : List Nat) : peek (lowerAll cs) after = (peek cs after).map (fun x => if cs = [] then x else toLower x) := by
  cases cs with
  | nil => cases after <;> simp [peek, Except.map]
  | cons c cs => simp [peek, Except.map]

theorem isAsciiDomain_lower (us : Bool) (s after : List Nat) :
    isAsciiDomain us (lowerAll s) after = isAsciiDomain us s after :=
  isAsciiDomain_map (toLower_class us) s after

/-- **under `H_ascii` mode 6531 and the ASCII modes agree on the host-name test** -/
theorem ascii_domain_agree (b : Build) (d : List Nat) :
    isAsciiDomain b.underscore (lowerAll d) [0] = isAsciiDomain b.underscore d [0] := isAsciiDomain_lower _ _ _

/-- `check_tld` asks three things of the name: is it reserved, where is its last dot, what is the class of the label behind it;
none of the answers depends on letter case -/
theorem checkTld_lowerAll (d : List Nat) (tld : Bool) : checkTld (lowerAll d) tld = checkTld d tld := by
  unfold checkTld
  rw [C09.isSpecialDomain_lowerAll, show splitLast 46 (lowerAll d) = _ from splitLast_map 46 toLower toLower_dot d]
  cases splitLast 46 d with
  | none => rfl
  | some p => simp only [Option.map_some, show isTld (p.2.map toLower) = isTld p.2 from C07.isTld_lowerAll p.2]

/-- for all-ASCII domains whose labels are not empty: same reserved-domain answer, same TLD class -/
theorem checkTld_lower (d : List Nat) (tld : Bool) (hlab : ∀ l ∈ splitDots d, l ≠ []) :
    checkTld (lowerAll d) tld = checkTld d tld := checkTld_lowerAll d tld

/-- under `H_ascii` `is_utf8_domain` computes what the ASCII branch computes -/
theorem utf8_as_ascii (b : Build) (conv : List Nat → Conv) (d : List Nat) (tld : Bool)
    (hd : d ≠ []) (hlab : ∀ x ∈ splitDots d, x ≠ []) (hasc : conv d = ⟨0, some (lowerAll d)⟩) :
    isUtf8Domain b conv d tld =
      (match isAsciiDomain b.underscore d [0] with
       | .error e => .error e
       | .ok rc => if rc != 0 then .ok (rc, 0) else match checkTld d tld with | .error e => .error e | .ok t => .ok (t, 0)) := by
  rw [isUtf8Domain_conv b tld hd hasc, isAsciiDomain_lower, checkTld_lower d tld hlab]
  rfl

/-- **`H_ascii` ⇒ the ASCII modes and mode 6531 report the same result code (decision and class) for the domain**,
and the same whole record (flags, `EAV_EXTRA` strings) whenever the domain is accepted -/
theorem ascii_modes_agree (b : Build) (conv : List Nat → Conv) (m : Mode) (hm : m ≠ .m6531) (l d : List Nat) (tld : Bool)
    (hd : d ≠ []) (hlab : ∀ x ∈ splitDots d, x ≠ []) (hasc : conv d = ⟨0, some (lowerAll d)⟩) :
    (hostPart b conv .m6531 l d tld).map (·.rc) = (hostPart b conv m l d tld).map (·.rc) ∧
    (∀ r, hostPart b conv m l d tld = .ok r → 0 ≤ r.rc → hostPart b conv .m6531 l d tld = .ok r) := by
  have hu := utf8_as_ascii b conv d tld hd hlab hasc
  rw [hostPart_ascii b conv hm, hostPart_6531, hu]
  cases hdom : isAsciiDomain b.underscore d [0] with
  | error e => exact ⟨rfl, fun r h => by cases h⟩
  | ok rc =>
    simp only
    by_cases hz : rc = 0
    · subst hz
      simp only [bne_self_eq_false, Bool.false_eq_true, if_false, beq_self_eq_true, if_true]
      cases hct : checkTld d tld with
      | error e => exact ⟨rfl, fun r h => by cases h⟩
      | ok t =>
        simp only
        by_cases ht : t ≥ 0
        · simp only [ht, if_true]
          exact ⟨trivial, fun r h _ => h⟩
        · simp only [ht, if_false]
          refine ⟨by simp [Except.map, okResult], fun r h hr => ?_⟩
          simp only [Except.ok.injEq] at h; subst h
          simp [okResult] at hr; omega
    · have h1 : (rc != 0) = true := by simpa using hz
      have h2 : (rc == 0) = false := by simpa using hz
      have hneg : ¬ rc ≥ 0 := by
        have := C04.isAsciiDomain_nonpos _ _ _ _ hdom; omega
      simp only [h1, if_true, h2, Bool.false_eq_true, if_false, hneg]
      refine ⟨trivial, fun r h hr => ?_⟩
      simp only [Except.ok.injEq] at h; subst h
      simp at hr; omega

/-- when the library refuses an all-ASCII domain the ASCII modes accept, the reason reported is the IDN error:
see `C19.idn_failure_rejected` (unconditional in the library's answer) -/
theorem refusal_is_idn_error (b : Build) (c : Conv) (L D : List Nat) (tld : Bool)
    (hc : c.rc ≠ 0) (hD : 64 ∉ D) (hDne : D ≠ []) (hbr : D.head? ≠ some 91)
    (hL : L.length ≤ 64) (hloc : localOf b .m6531 L = 0) :
    isEmail b (fun _ => c) .m6531 (L ++ 64 :: D) tld = .ok { rc := -(E.IDN_ERROR : Int), idnRc := c.rc } :=
  C19.idn_failure_rejected b c L D tld hc hD hDne hbr hL hloc

/-- `B.Com` with an oracle that answers as libidn2 does for ASCII domains (`H_ascii`): non-empty labels, conversion = lower case -/
example : let d := [66, 46, 67, 111, 109]
    d ≠ [] ∧ (∀ x ∈ splitDots d, x ≠ []) ∧ (fun (x : List Nat) => (⟨0, some (lowerAll x)⟩ : Conv)) d = ⟨0, some (lowerAll d)⟩ :=
  ⟨by decide, by decide, rfl⟩

/-- … and on it mode 6531 and mode 5321 agree -/
example : (hostPart {} (fun x => ⟨0, some (lowerAll x)⟩) .m6531 [97] [66, 46, 67, 111, 109] false).map (·.rc) =
    (hostPart {} (fun x => ⟨0, some (lowerAll x)⟩) .m5321 [97] [66, 46, 67, 111, 109] false).map (·.rc) := by decide

/-- a refusing oracle on `a@b.com`: the hypotheses of `refusal_is_idn_error` hold -/
example : (-304 : Int) ≠ 0 ∧ 64 ∉ [98, 46, 99, 111, 109] ∧ [98, 46, 99, 111, 109] ≠ [] ∧ [98, 46, 99, 111, 109].head? ≠ some 91 ∧
    [97].length ≤ 64 ∧ localOf {} .m6531 [97] = 0 := by
  exact ⟨by decide, by decide, by decide, by decide, by decide, by decide +kernel⟩

end Eav.Props.C10
