import Eav.Model
import Eav.Props.C01
import Eav.Lemmas.Api
/-!
# C13 — reuse of an `eav_t`: the outcome depends on the current settings and the address only

`State` is the `eav_t` (fields) plus the heap ledger (`liveResults`: result records allocated and not yet
freed; `resconfLive`: idnkit contexts).  `Inv` is the ledger invariant; it holds after `eav_init` and is
preserved by every operation; under it `eav_is_email` is a function of (selected mode, `tld_check`,
`allow_tld`, address, IDN answer), the previous record is released by the next call, `eav_free` releases
everything exactly once, and the object can be initialised again.
-/
namespace Eav.Props.C13
open Eav

/-- ledger invariant of a live object: exactly the record `eav->result` points to is allocated; for idnkit,
exactly the context of an `initialized` object -/
def Inv (be : Backend) (st : State) : Prop :=
  match st.obj with
  | none => st.liveResults = 0 ∧ st.resconfLive = 0
  | some e =>
    st.liveResults = (if e.result.isSome then 1 else 0) ∧
    st.resconfLive = (if be = .idnkit ∧ e.initialized = true then 1 else 0)

/-- nothing is allocated: before `eav_init`, and again after `eav_free` -/
def Released (st : State) : Prop := st.liveResults = 0 ∧ st.resconfLive = 0

theorem inv_blank (be : Backend) : Inv be {} := by simp [Inv]

/-- `eav_init` on memory that holds no live allocation gives a consistent object -/
theorem inv_init (be : Backend) (st : State) (h : Released st) : Inv be (eavInit st) := by
  simp [Inv, eavInit, h.1, h.2]

/-- the observable outcome of a validation -/
def outcomeOf (b : Build) (c : Conv) (m : Mode) (tld : Bool) (mask : Nat) (a : List Nat) :
    Except Fault (Int × Nat × Option Int × Result) :=
  match isEmail b (fun _ => c) m a tld with
  | .error f => .error f
  | .ok r =>
    match verdictOf mask r with
    | .error f => .error f
    | .ok (ret, ec, msg) => .ok (ret, ec, msg, r)

/-! ### the operations under the invariant

Under `Inv` every API function returns (up to the callback and the policy) and leaves an explicit state: the object replaced, the ledger
fitting it, whatever the back end.  The theorems of this file and of C06, C18, C19, C20Main are read off these. -/

section
variable {be : Backend} {b : Build} {st st' : State} {e : EavT}

theorem inv_some (hobj : st.obj = some e) : Inv be st ↔
    st.liveResults = (if e.result.isSome then 1 else 0) ∧
    st.resconfLive = (if be = .idnkit ∧ e.initialized = true then 1 else 0) := by
  unfold Inv; rw [hobj]

theorem inv_mk (hobj : st.obj = some e) (hl : st.liveResults = (if e.result.isSome then 1 else 0))
    (hr : st.resconfLive = (if be = .idnkit ∧ e.initialized = true then 1 else 0)) : Inv be st :=
  (inv_some hobj).mpr ⟨hl, hr⟩

/-- a store to a field other than `result` / `initialized` -/
theorem inv_store {e' : EavT} (hinv : Inv be st) (hobj : st.obj = some e) (hr : e'.result = e.result)
    (hi : e'.initialized = e.initialized) : Inv be { st with obj := some e' } :=
  inv_mk rfl (hr ▸ ((inv_some hobj).mp hinv).1) (hi ▸ ((inv_some hobj).mp hinv).2)

/-- under the invariant, releasing the held record (`eav_result_free (eav->result)`) meets no dead block and leaves none live -/
theorem inv_live (hinv : Inv be st) (hobj : st.obj = some e) :
    (e.result.isSome && st.liveResults == 0) = false ∧ (if e.result.isSome then st.liveResults - 1 else st.liveResults) = 0 := by
  have hl := ((inv_some hobj).mp hinv).1
  cases hr : e.result <;> simp [hr] at hl ⊢ <;> omega

/-- the state a validation leaves: the old record freed, the new one live, code and message stored -/
def afterCall (st : State) (e : EavT) (r : Result) (ec : Nat) (msg : Option Int) : State :=
  { st with liveResults := 1, freedResults := st.freedResults + (if e.result.isSome then 1 else 0),
            obj := some { e with result := some r, errcode := ec, idnmsg := msg } }

theorem inv_afterCall (hinv : Inv be st) (hobj : st.obj = some e) (r : Result) (ec : Nat) (msg : Option Int) :
    Inv be (afterCall st e r ec msg) :=
  inv_mk rfl rfl ((inv_some hobj).mp hinv).2

/-- under the ledger invariant `eav_is_email` is its definition without the double-free test, and the new record is the one live record -/
theorem eavIsEmail_eq (conv : List Nat → Conv) (a : List Nat) (hinv : Inv be st) (hobj : st.obj = some e) :
    eavIsEmail b conv st a =
      match selectedMode e with
      | .error f => .error f
      | .ok m =>
        match isEmail b conv m a e.tldCheck with
        | .error f => .error f
        | .ok r =>
          match verdictOf e.allowTld r with
          | .error f => .error f
          | .ok (ret, ec, msg) =>
            .ok (afterCall st e r ec msg, ret) := by
  obtain ⟨hnb, hlive⟩ := inv_live hinv hobj
  unfold eavIsEmail
  simp only [hobj, hnb, hlive, Bool.false_eq_true, if_false]
  -- the two sides differ in the auxiliary matchers only
  cases selectedMode e with
  | error f => rfl
  | ok m =>
    simp only
    cases isEmail b conv m a e.tldCheck with
    | error f => rfl
    | ok r =>
      simp only
      cases verdictOf e.allowTld r <;> rfl

/-- ... so it succeeds exactly when the callback and the policy do -/
theorem eavIsEmail_ok_iff {conv : List Nat → Conv} {a : List Nat} {ret : Int} (hinv : Inv be st) (hobj : st.obj = some e) :
    eavIsEmail b conv st a = .ok (st', ret) ↔
      ∃ m r ec msg, selectedMode e = .ok m ∧ isEmail b conv m a e.tldCheck = .ok r ∧ verdictOf e.allowTld r = .ok (ret, ec, msg) ∧
        st' = afterCall st e r ec msg := by
  rw [eavIsEmail_eq conv a hinv hobj]
  constructor
  · intro h
    cases hm : selectedMode e with
    | error f => rw [hm] at h; cases h
    | ok m =>
      cases hi : isEmail b conv m a e.tldCheck with
      | error f => simp only [hm, hi] at h; cases h
      | ok r =>
        cases hv : verdictOf e.allowTld r with
        | error f => simp only [hm, hi, hv] at h; cases h
        | ok p =>
          simp only [hm, hi, hv, Except.ok.injEq, Prod.mk.injEq] at h
          obtain ⟨rfl, rfl⟩ := h
          exact ⟨m, r, _, _, rfl, hi, hv, rfl⟩
  · rintro ⟨m, r, ec, msg, hm, hi, hv, rfl⟩
    simp only [hm, hi, hv]

/-- `st'` is `st` with the object replaced by `e'`: the record ledger is untouched and the context ledger fits `e'` -/
def Post (be : Backend) (st : State) (e' : EavT) (st' : State) : Prop :=
  st'.obj = some e' ∧ st'.liveResults = st.liveResults ∧ st'.freedResults = st.freedResults ∧ Inv be st'

/-- what `eav_setup` does to the fields, in every back end: (new object, return code) -/
def setupObj (e : EavT) : EavT × Int :=
  if e.rfc == 0 then ({ e with asciiCb := some .m822, initialized := false, utf8 := false }, 0)
  else if e.rfc == 1 then ({ e with asciiCb := some .m5321, initialized := false, utf8 := false }, 0)
  else if e.rfc == 2 then ({ e with asciiCb := some .m5322, initialized := false, utf8 := false }, 0)
  else if e.rfc == 3 then ({ e with utf8 := true, utf8Cb := true, initialized := true }, 0)
  else ({ e with errcode := E.INVALID_RFC }, (E.INVALID_RFC : Int))

/-- an ASCII arm under the invariant: the idnkit context, present iff the object is `initialized`, is destroyed -/
theorem setupAscii_spec (m : Mode) (hinv : Inv be st) (hobj : st.obj = some e) :
    ∃ st', setupAscii be st e m = .ok (st', 0) ∧ Post be st { e with asciiCb := some m, initialized := false, utf8 := false } st' := by
  obtain ⟨hl, hr⟩ := (inv_some hobj).mp hinv
  simp only [setupAscii, Bool.and_eq_true, beq_iff_eq, and_comm (a := e.initialized = true)]
  by_cases hk : be = .idnkit ∧ e.initialized = true
  · rw [if_pos hk] at hr
    rw [if_pos hk, hr]
    exact ⟨_, rfl, rfl, rfl, rfl, inv_mk rfl hl (by simp)⟩
  · rw [if_neg hk] at hr
    rw [if_neg hk]
    exact ⟨_, rfl, rfl, rfl, rfl, inv_mk rfl hl (by simp [hr])⟩

/-- the 6531 arm under the invariant: the idnkit context is created unless the object is `initialized` already -/
theorem setup6531_spec (hinv : Inv be st) (hobj : st.obj = some e) :
    ∃ st', setup6531 be st e = .ok (st', 0) ∧ Post be st { e with utf8 := true, utf8Cb := true, initialized := true } st' := by
  obtain ⟨hl, hr⟩ := (inv_some hobj).mp hinv
  obtain ⟨s, h, ho, h1, h2, h3⟩ := setup6531_ok be st e
  refine ⟨s, h, ho, h1, h2, inv_mk ho (h1 ▸ hl) ?_⟩
  rw [h3, hr]
  cases be <;> cases e.initialized <;> rfl

theorem eavSetup_spec (hinv : Inv be st) (hobj : st.obj = some e) :
    ∃ st', eavSetup be st = .ok (st', (setupObj e).2) ∧ Post be st (setupObj e).1 st' := by
  -- one goal per arm of `setupObj`; the tests that select it select the same arm of `eav_setup`
  fun_cases setupObj e <;> simp only [eavSetup, *, if_true]
  · exact setupAscii_spec _ hinv hobj
  · exact setupAscii_spec _ hinv hobj
  · exact setupAscii_spec _ hinv hobj
  · exact setup6531_spec hinv hobj
  · exact ⟨_, rfl, rfl, rfl, rfl, inv_store hinv hobj rfl rfl⟩

/-- read backwards: a setup that returned found an object and left the state described above -/
theorem eavSetup_post {rc : Int} (hinv : Inv be st) (h : eavSetup be st = .ok (st', rc)) :
    ∃ e, st.obj = some e ∧ rc = (setupObj e).2 ∧ Post be st (setupObj e).1 st' := by
  cases hobj : st.obj with
  | none => simp [eavSetup, hobj] at h
  | some e =>
    obtain ⟨s, hs, hp⟩ := eavSetup_spec hinv hobj
    rw [hs] at h; cases h
    exact ⟨e, rfl, rfl, hp⟩

/-- a setup during which the context may fail to be created: either only the message is stored, or it is `eav_setup` -/
theorem eavSetupFail_post {r rc : Int} (hinv : Inv be st) (h : eavSetupFail be st r = .ok (st', rc)) :
    ∃ e', Post be st e' st' := by
  cases hobj : st.obj with
  | none => simp [eavSetupFail, hobj] at h
  | some e =>
    rw [eavSetupFail_eq r hobj] at h
    split at h
    · cases h; exact ⟨_, rfl, rfl, rfl, inv_store hinv hobj rfl rfl⟩
    · obtain ⟨_, _, _, hp⟩ := eavSetup_post hinv h
      exact ⟨_, hp⟩

/-- `eav_free` under the invariant, with the object it leaves -/
theorem free_spec (hinv : Inv be st) (hobj : st.obj = some e) :
    ∃ st', eavFree be st = .ok st' ∧ st'.obj = some { e with result := none } ∧ Released st' ∧
      st'.freedResults = st.freedResults + (if e.result.isSome then 1 else 0) ∧
      st'.resconfDestroyed = st.resconfDestroyed + (if be = .idnkit ∧ e.initialized = true then 1 else 0) := by
  obtain ⟨hnb, hlive⟩ := inv_live hinv hobj
  have hr := ((inv_some hobj).mp hinv).2
  simp only [eavFree, hobj, hnb, hlive, Bool.false_eq_true, if_false, Bool.and_eq_true, beq_iff_eq]
  by_cases hk : be = Backend.idnkit ∧ e.initialized = true
  · rw [if_pos hk] at hr
    rw [if_pos hk, if_pos hk, hr]
    exact ⟨_, rfl, rfl, ⟨rfl, rfl⟩, rfl, rfl⟩
  · rw [if_neg hk] at hr
    rw [if_neg hk, if_neg hk]
    exact ⟨_, rfl, rfl, ⟨rfl, hr⟩, rfl, rfl⟩

/-- **one step**: every operation other than `eav_init` / `eav_free` that returns keeps the ledger invariant, and there is an object
afterwards (each of them reads the object, so there was one before) -/
theorem step_inv {op : Op} {o : Out} (hinv : Inv be st) (hi : op ≠ .init) (hf : op ≠ .free)
    (h : step be b st op = .ok (st', o)) : Inv be st' ∧ st'.obj ≠ none := by
  have some_of : ∀ {s : State} {e : EavT}, s.obj = some e → s.obj ≠ none := fun h => by rw [h]; nofun
  obtain ⟨e, hobj⟩ := step_obj h hi
  cases op with
  | init => exact absurd rfl hi
  | free => exact absurd rfl hf
  | setRfc _ | setTld _ | setMask _ =>
    obtain ⟨e, ho, rfl, _⟩ := (step_store_iff rfl).mp h
    exact ⟨inv_store hinv ho rfl rfl, nofun⟩
  | errstr =>
    obtain ⟨_, _, rfl, _⟩ := step_errstr_iff.mp h
    exact ⟨hinv, some_of hobj⟩
  | setup =>
    obtain ⟨rc, hs, _⟩ := step_setup_iff.mp h
    obtain ⟨_, _, _, ho, _, _, hi'⟩ := eavSetup_post hinv hs
    exact ⟨hi', some_of ho⟩
  | setupFail r =>
    obtain ⟨rc, hs, _⟩ := step_setupFail_iff.mp h
    obtain ⟨_, ho, _, _, hi'⟩ := eavSetupFail_post hinv hs
    exact ⟨hi', some_of ho⟩
  | isEmail a c =>
    obtain ⟨ret, _, _, _, he, _⟩ := step_isEmail_iff.mp h
    obtain ⟨_, r, ec, msg, _, _, _, rfl⟩ := (eavIsEmail_ok_iff hinv hobj).mp he
    exact ⟨inv_afterCall hinv hobj r ec msg, nofun⟩

end

/-- **the outcome is a function of (selected mode, tld_check, allow_tld, address) only**: whatever record,
error code, message, counters the object holds from earlier calls, `eav_is_email` returns and stores exactly
`outcomeOf`; the previous record is released (one allocation stays live); the invariant is preserved -/
theorem isEmail_outcome (be : Backend) (b : Build) (c : Conv) (st : State) (e : EavT) (m : Mode) (a : List Nat)
    (hinv : Inv be st) (hobj : st.obj = some e) (hm : C01.modeOfObj e = some m) :
    match outcomeOf b c m e.tldCheck e.allowTld a with
    | .error f => eavIsEmail b (fun _ => c) st a = .error f
    | .ok (ret, ec, msg, r) =>
      ∃ st', eavIsEmail b (fun _ => c) st a = .ok (st', ret) ∧
        st'.obj = some { e with result := some r, errcode := ec, idnmsg := msg } ∧
        st'.liveResults = 1 ∧ st'.freedResults = st.freedResults + (if e.result.isSome then 1 else 0) ∧
        st'.resconfLive = st.resconfLive ∧ Inv be st' := by
  rw [eavIsEmail_eq _ a hinv hobj, C01.modeOfObj_eq_some.mp hm]
  unfold outcomeOf
  simp only
  cases isEmail b (fun _ => c) m a e.tldCheck with
  | error f => rfl
  | ok r =>
    simp only
    cases verdictOf e.allowTld r with
    | error f => rfl
    | ok p => exact ⟨_, rfl, rfl, rfl, rfl, rfl, inv_afterCall hinv hobj ..⟩

/-- `eav_errstr` describes the most recent `eav_is_email` call: it is determined by the error code and IDN
message that call stored -/
theorem errstr_latest (st : State) (e : EavT) (h : st.obj = some e) (hlt : e.errcode < E.MAX) :
    eavErrstr st = .ok (if e.errcode = E.IDN_ERROR then (match e.idnmsg with | some rc => .idn rc | none => .null)
                        else .table e.errcode) := by
  simp only [eavErrstr, h, beq_iff_eq, hlt, if_true]
  by_cases h2 : e.errcode = E.IDN_ERROR
  · rw [if_pos h2, if_pos h2]; cases e.idnmsg <;> rfl
  · rw [if_neg h2, if_neg h2]

/-- a failed `eav_setup` (undefined mode) leaves the selected mode, the settings and the ledger alone and
records `EEAV_INVALID_RFC` -/
theorem failed_setup_keeps_mode (be : Backend) (st : State) (e : EavT) (h : st.obj = some e)
    (hbad : e.rfc ≠ 0 ∧ e.rfc ≠ 1 ∧ e.rfc ≠ 2 ∧ e.rfc ≠ 3) :
    eavSetup be st = .ok ({ st with obj := some { e with errcode := E.INVALID_RFC } }, (E.INVALID_RFC : Int)) := by
  simp only [eavSetup, h, beq_iff_eq, hbad, if_false]

/-- `eav_setup` preserves the invariant (idnkit: the context is created when mode 6531 is first confirmed and
destroyed when an ASCII mode is confirmed) and never frees a record -/
theorem inv_setup (be : Backend) (st st' : State) (rc : Int) (hinv : Inv be st) (h : eavSetup be st = .ok (st', rc)) :
    Inv be st' ∧ st'.liveResults = st.liveResults :=
  let ⟨_, _, _, _, hl, _, hi⟩ := eavSetup_post hinv h
  ⟨hi, hl⟩

/-- **`eav_free` after any history releases everything exactly once**: under the invariant it cannot hit a
dead block, it frees the held record (if any) and the idnkit context (if any), and nothing stays allocated -/
theorem free_releases (be : Backend) (st : State) (e : EavT) (hinv : Inv be st) (hobj : st.obj = some e) :
    ∃ st', eavFree be st = .ok st' ∧ Released st' ∧
      st'.freedResults = st.freedResults + (if e.result.isSome then 1 else 0) ∧
      st'.resconfDestroyed = st.resconfDestroyed + (if be = .idnkit ∧ e.initialized = true then 1 else 0) :=
  let ⟨s, h, _, hr⟩ := free_spec hinv hobj
  ⟨s, h, hr⟩

/-- after `eav_free` the object can be initialised and used again -/
theorem reinit_ok (be : Backend) (st : State) (e : EavT) (hinv : Inv be st) (hobj : st.obj = some e) :
    ∃ st', eavFree be st = .ok st' ∧ Inv be (eavInit st') := by
  obtain ⟨st', h1, h2, _⟩ := free_releases be st e hinv hobj
  exact ⟨st', h1, inv_init be st' h2⟩

/-- the settings fields are plain stores: they preserve the invariant, the selected mode and the held record -/
theorem inv_settings (be : Backend) (b : Build) (st st' : State) (o : Out) (op : Op)
    (hop : (∃ v, op = .setRfc v) ∨ (∃ t, op = .setTld t) ∨ (∃ k, op = .setMask k))
    (hinv : Inv be st) (h : step be b st op = .ok (st', o)) :
    Inv be st' ∧ (∀ e, st.obj = some e → ∃ e', st'.obj = some e' ∧ C01.modeOfObj e' = C01.modeOfObj e ∧ e'.result = e.result) := by
  rcases hop with ⟨v, rfl⟩ | ⟨t, rfl⟩ | ⟨k, rfl⟩ <;>
    (obtain ⟨e, hobj, rfl, _⟩ := (step_store_iff rfl).mp h
     exact ⟨inv_store hinv hobj rfl rfl, fun e0 he0 => ⟨_, rfl, by rw [hobj] at he0; cases he0; exact ⟨rfl, rfl⟩⟩⟩)

/-- **a refused creation of the back end's context changes nothing but the message**: `eav_setup` for mode 6531 on an idnkit object whose
resolver context cannot be created returns the IDN error, and the object keeps the mode confirmed by the last successful `eav_setup`, its
settings, its record and its ledger (`partial/idnkit/eav.c` after 292433e: the switch to UTF-8 is made only after `init_idn` succeeded) -/
theorem failed_create_keeps_mode (st : State) (e : EavT) (r : Int) (h : st.obj = some e) (h3 : e.rfc = 3) (hi : e.initialized = false) :
    eavSetupFail .idnkit st r = .ok ({ st with obj := some { e with idnmsg := some r } }, -(E.IDN_ERROR : Int)) ∧
      C01.modeOfObj { e with idnmsg := some r } = C01.modeOfObj e :=
  ⟨by rw [eavSetupFail_eq r h, if_pos ⟨rfl, h3, hi⟩], rfl⟩

/-- ... and the next validation does not see it: `eav_is_email` on the object after the refused creation returns what it returns on the
object before it, and leaves the same state behind (the message stored by `init_idn` is overwritten by every validation) -/
theorem failed_create_invisible (b : Build) (conv : List Nat → Conv) (st : State) (e : EavT) (r : Int) (a : List Nat) (h : st.obj = some e) :
    eavIsEmail b conv { st with obj := some { e with idnmsg := some r } } a = eavIsEmail b conv st a := by
  unfold eavIsEmail
  simp only [h]
  rfl

/-- the premises are met by the object `eav_init` leaves (mode 6531 requested, no context yet) ... -/
example : ∃ e, (eavInit {}).obj = some e ∧ e.rfc = 3 ∧ e.initialized = false := ⟨_, rfl, rfl, rfl⟩
/-- ... and a concrete history on the idnkit back end: mode 5321 confirmed, a 6531 setup refused because the context cannot be created, then a
validation - it is the 5321 validator that answers (a non-ASCII local part is refused as such), and nothing is left allocated after `eav_free` -/
example : (run .idnkit {} {} [.init, .setRfc 1, .setup, .setRfc 3, .setupFail 12, .isEmail [208, 182, 64, 98, 46, 99, 111, 109] ⟨0, none⟩, .free]).toOption.map
    (fun p => (p.2.map (fun o => match o with | .rc v => v | .verdict _ ec _ _ => (ec : Int) | _ => 0), p.1.liveResults, p.1.resconfLive)) =
    some ([0, 0, 0, 0, -2, 6, 0], 0, 0) := by decide

/-- in every other situation nothing is created, so nothing can fail: the call is `eav_setup` -/
theorem setupFail_eq_setup (be : Backend) (st : State) (e : EavT) (r : Int) (h : st.obj = some e)
    (hn : be ≠ .idnkit ∨ e.rfc ≠ 3 ∨ e.initialized = true) : eavSetupFail be st r = eavSetup be st := by
  rw [eavSetupFail_eq r h, if_neg]
  rintro ⟨hk, h3, hi⟩
  rcases hn with h1 | h1 | h1
  · exact h1 hk
  · exact h1 h3
  · rw [hi] at h1; cases h1

/-- the invariant and the ledger survive a setup in which the context cannot be created -/
theorem inv_setupFail (be : Backend) (st st' : State) (r : Int) (rc : Int) (hinv : Inv be st) (h : eavSetupFail be st r = .ok (st', rc)) :
    Inv be st' ∧ st'.liveResults = st.liveResults :=
  let ⟨_, _, hl, _, hi⟩ := eavSetupFail_post hinv h
  ⟨hi, hl⟩

/-- **every reachable state satisfies the invariant**: a history that starts with `eav_init` on blank memory and
contains no further `eav_init` / `eav_free` keeps exactly the current record (and idnkit context) allocated -/
theorem run_inv (be : Backend) (b : Build) : ∀ (ops : List Op) (st st' : State) (outs : List Out),
    Inv be st → (∀ op ∈ ops, op ≠ .init ∧ op ≠ .free) → run be b st ops = .ok (st', outs) → Inv be st' :=
  fun ops st st' outs hinv hops h =>
    run_induction (Inv be) ops st st' outs (fun op ho _ _ _ hi hs => (step_inv hi (hops op ho).1 (hops op ho).2 hs).1) hinv h

/-- **a whole life cycle**: `eav_init`, any operations, `eav_free` — nothing stays allocated, every record was
freed exactly once (allocated = freed) -/
theorem lifecycle_releases (be : Backend) (b : Build) (ops : List Op) (st : State) (outs : List Out)
    (hops : ∀ op ∈ ops, op ≠ .init ∧ op ≠ .free)
    (h : run be b (eavInit {}) ops = .ok (st, outs)) :
    ∃ st', eavFree be st = .ok st' ∧ Released st' := by
  -- the object stays initialised: no operation un-initialises it
  obtain ⟨hinv, hobj⟩ := run_induction (fun s => Inv be s ∧ s.obj ≠ none) ops _ st outs
    (fun op ho _ _ _ hi hs => step_inv hi.1 (hops op ho).1 (hops op ho).2 hs) ⟨inv_init be {} ⟨rfl, rfl⟩, nofun⟩ h
  cases hobj' : st.obj with
  | none => exact absurd hobj' hobj
  | some e =>
    obtain ⟨st', h1, _, h2, _⟩ := free_spec hinv hobj'
    exact ⟨st', h1, h2⟩

/-! ### the hypotheses are satisfiable: a concrete history on the idnkit back end -/

def demoOps : List Op := [.setTld false, .setRfc 1, .setup, .isEmail [97, 64, 98, 46, 99, 111] ⟨0, none⟩, .errstr,
  .setRfc 7, .setup, .errstr, .setRfc 0, .setup, .isEmail [97, 64, 91, 49, 46, 50, 46, 51, 46, 52, 93] ⟨0, none⟩]

/-- it contains neither `init` nor `free` and runs without a fault from a freshly initialised object … -/
example : (∀ op ∈ demoOps, op ≠ .init ∧ op ≠ .free) ∧
    (match run .idnkit {} (eavInit {}) demoOps with | .ok _ => true | .error _ => false) = true := by
  constructor <;> decide

end Eav.Props.C13
