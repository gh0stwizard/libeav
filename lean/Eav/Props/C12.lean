import Eav.Model
import Eav.Props.C02
import Eav.Lemmas.Email
/-!
# C12 — the modes differ only where the RFCs differ
-/
namespace Eav.Props.C12
open Eav Eav.Spec

/-- no DQUOTE, no backslash, no NUL, no byte above 127 -/
def Plain (s : List Nat) : Prop := ∀ c ∈ s, c ≠ 34 ∧ c ≠ 92 ∧ c ≠ 0 ∧ c ≤ 127

/-- **all four modes give the same return code on a quote-free pure-ASCII local part** -/
theorem unquoted_same (b : Build) (hb : b.rfc20 = false ∧ b.rfc5322 = false) (L : List Nat) (hp : Plain L) (m m' : Mode) :
    localOf b m L = localOf b m' L := by
  have hx : ∀ m, (Scan.of b m).extra = [] := by
    intro m; cases m <;> simp [Scan.of, Scan.m822, Scan.m5321, Scan.m5322, Scan.m6531, Build.l, hb.1]
  rw [localOf_eq, localOf_eq, scan_unquoted _ (.of b m') ((hx m).trans (hx m').symm) none L
    fun c hc => ⟨(hp c hc).2.2.2, (hp c hc).2.2.1, (hp c hc).1⟩]

theorem okItem_mono (it : QItem) (h : okItem .m5321 it = true) : okItem .m822 it = true := by
  cases it with
  | ch c => simp [okItem, printable, ascii] at h ⊢; omega
  | pair c => simp [okItem, printable, ascii] at h ⊢; omega
  | fold w => simp [okItem] at h

theorem isLocal_mono (s : List Nat) (h : IsLocal .m5321 s) : IsLocal .m822 s := by
  obtain ⟨ws, hne, hall, rfl⟩ := h
  refine ⟨ws, hne, ?_, rfl⟩
  intro w hw
  rcases hall w hw with ⟨h1, h2⟩ | ⟨items, hok, rfl, _⟩
  · left
    refine ⟨h1, fun x hx => ?_⟩
    have := h2 x hx
    simp [atext] at this ⊢
    exact this
  · right
    exact ⟨items, fun it hit => okItem_mono it (hok it hit), rfl, fun h => by cases h⟩

theorem local_incl (L : List Nat) (e : Nat) (hn : NulFree L) (h : is5321Local L = 0) : is822Local L e = 0 :=
  (C02.local_iff_822 L e hn).mpr (isLocal_mono L ((C02.local_iff_5321 L hn).mp h))

/-- in the ASCII modes the domain half is judged by one and the same function -/
theorem hostPart_shared (b : Build) (conv : List Nat → Conv) (m m' : Mode) (hm : m ≠ .m6531) (hm' : m' ≠ .m6531)
    (l d : List Nat) (tld : Bool) : hostPart b conv m l d tld = hostPart b conv m' l d tld := by
  rw [hostPart_ascii b conv hm, hostPart_ascii b conv hm']

/-- **for a fixed domain part the three ASCII modes report the same verdict, class, flags and strings**
(whenever the local part is valid in both modes; otherwise each reports its own local-part code) -/
theorem domain_verdict_shared (b : Build) (conv : List Nat → Conv) (m m' : Mode) (hm : m ≠ .m6531) (hm' : m' ≠ .m6531)
    (L D : List Nat) (tld : Bool) (hD : 64 ∉ D) (h1 : localOf b m L = 0) (h2 : localOf b m' L = 0) :
    isEmail b conv m (L ++ 64 :: D) tld = isEmail b conv m' (L ++ 64 :: D) tld := by
  rw [isEmail_at b conv m tld L hD, isEmail_at b conv m' tld L hD, h1, h2, hostPart_shared b conv m m' hm hm']

/-- **inclusion**: an address accepted in mode 5321 is accepted in mode 822 (with the same result record) -/
theorem incl_5321_822 (b : Build) (conv : List Nat → Conv) (s : List Nat) (tld : Bool) (hn : NulFree s) (r : Result)
    (h : isEmail b conv .m5321 s tld = .ok r) (hacc : 0 ≤ r.rc) : isEmail b conv .m822 s tld = .ok r := by
  rcases isEmail_record h with ⟨e, _, he, rfl⟩ | ⟨L, D, rfl, hD, _, _, hl, _⟩
  · exact absurd hacc (by simp only; omega)
  · -- the local part passes in mode 822 too, and both modes continue with the same domain test
    have h822 : localOf b .m822 L = 0 := local_incl L 64 (fun c hc => hn c (by simp [hc])) hl
    rw [← h]; exact domain_verdict_shared b conv .m822 .m5321 (by decide) (by decide) L D tld hD h822 hl

/-! ### the hypotheses are satisfiable, and the restriction to quote-free pure-ASCII local parts is needed -/

/-- `a.b` and `a..b` are plain (no quote, no backslash, ASCII) -/
example : Plain [97, 46, 98] ∧ Plain [97, 46, 46, 98] := by
  constructor <;> (unfold Plain; decide)
/-- same code in two modes on such a local part (here: "too many dots") -/
example : localOf {} .m822 [97, 46, 46, 98] = localOf {} .m5322 [97, 46, 46, 98] := by decide
/-- with a quoted blank the modes differ: 5321 accepts `"a b"`, 5322 does not -/
example : localOf {} .m5321 [34, 97, 32, 98, 34] = 0 ∧ localOf {} .m5322 [34, 97, 32, 98, 34] ≠ 0 := by decide

end Eav.Props.C12
