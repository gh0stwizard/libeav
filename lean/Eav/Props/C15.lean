import Eav.Model
import Eav.Props.C02
import Eav.Props.C03
import Eav.Props.C04
import Eav.Props.C16
import Eav.Lemmas.Email
import Eav.Lemmas.Api
/-!
# C15 — diagnostics are truthful: the reported reason really holds of the input
-/
namespace Eav.Props.C15
open Eav Eav.Spec

/-- `is_ascii_domain` returns 0 or one of its own codes `EEAV_DOMAIN_EMPTY … EEAV_DOMAIN_NUMERIC` (the local-part scanners: `localOf_range`) -/
theorem isAsciiDomain_range (us : Bool) (s after : List Nat) (r : Int) (h : isAsciiDomain us s after = .ok r) :
    r = 0 ∨ (-22 ≤ r ∧ r ≤ -16) := by
  rcases Eav.isAsciiDomain_ok_cases h with h | h | h <;> omega

/-! ### `eav_is_email` returns 1 iff the recorded error is 'no error'; the code is the validator's code -/

theorem verdict_shape (k : Nat) (r : Result) (ret : Int) (ec : Nat) (msg : Option Int)
    (h : verdictOf k r = .ok (ret, ec, msg)) :
    (ret = 1 ∨ ret = 0) ∧ (ret = 1 ↔ ec = 0) ∧ (r.rc < 0 → (ec : Int) = -r.rc) ∧
      (1 ≤ r.rc → ret = 0 → (ec : Int) = 26 + r.rc) ∧
      (ec = E.IDN_ERROR → msg = some r.idnRc) ∧ (ec ≠ E.IDN_ERROR → msg = none) := by
  have e2 : E.IDN_ERROR = 2 := rfl
  rcases verdictOf_ok_cases h with ⟨h0, rfl, rfl, rfl⟩ | ⟨hn, rfl, he, rfl⟩ | ⟨h1, h9, rfl, ⟨rfl, rfl⟩ | ⟨rfl, he⟩⟩
  · exact ⟨.inl rfl, by simp, by omega, by omega, nofun, fun _ => rfl⟩
  · exact ⟨.inr rfl, by omega, fun _ => he, by omega, fun h => if_pos h, fun h => if_neg h⟩
  · exact ⟨.inl rfl, by simp, by omega, by omega, nofun, fun _ => rfl⟩
  · exact ⟨.inr rfl, by omega, by omega, fun _ _ => he, by omega, fun _ => rfl⟩

/-- what `is_*_email` reports, split by where the code comes from -/
theorem code_origin (b : Build) (conv : List Nat → Conv) (m : Mode) (s : List Nat) (tld : Bool) (r : Result)
    (h : isEmail b conv m s tld = .ok r) (hneg : r.rc < 0) :
    (r.rc = -(E.EMAIL_EMPTY : Int) ∧ s = []) ∨
    (r.rc = -(E.DOMAIN_EMPTY : Int) ∧ (64 ∉ s ∨ s.getLast? = some 64)) ∨
    (∃ L D, s = L ++ 64 :: D ∧ 64 ∉ D ∧ D ≠ [] ∧
      ((r.rc = -(E.LPART_TOO_LONG : Int) ∧ L.length > 64) ∨
       (L.length ≤ 64 ∧ r.rc = localOf b m L ∧ localOf b m L ≠ 0) ∨
       (L.length ≤ 64 ∧ localOf b m L = 0 ∧ D.head? ≠ some 91 ∧ hostPart b conv m L D tld = .ok r) ∨
       (L.length ≤ 64 ∧ localOf b m L = 0 ∧ D.head? = some 91 ∧ literalPart b L D = .ok r))) := by
  rcases (isEmail_ok_iff b conv m tld).mp h with ⟨hs, rfl⟩ | ⟨hs, rfl⟩ | ⟨L, D, hs, hD, hne, hc⟩
  · exact .inl ⟨rfl, hs⟩
  · exact .inr (.inl ⟨rfl, hs.imp_left And.right⟩)
  · refine .inr (.inr ⟨L, D, hs, hD, hne, ?_⟩)
    rcases hc with ⟨hl, rfl⟩ | ⟨hl, h0, rfl⟩ | hc | hc
    · exact .inl ⟨rfl, hl⟩
    · exact .inr (.inl ⟨hl, rfl, h0⟩)
    · exact .inr (.inr (.inl hc))
    · exact .inr (.inr (.inr hc))

/-- **'too long' only above 64 octets; 'empty' only for the empty string; a local-part code only if the local part
really is invalid for the mode** (modes 822/5321/5322: not `word *("." word)`; mode 6531: not well-formed UTF-8
whose characters form an RFC 5321 local part) -/
theorem lpart_code_sound (b : Build) (hb : b.rfc20 = false ∧ b.rfc5322 = false) (conv : List Nat → Conv) (m : Mode)
    (s : List Nat) (hn : NulFree s) (tld : Bool) (r : Result)
    (h : isEmail b conv m s tld = .ok r) (hcode : -15 ≤ r.rc ∧ r.rc ≤ -4) :
    ∃ L D, s = L ++ 64 :: D ∧ 64 ∉ D ∧
      ((r.rc = -(E.LPART_TOO_LONG : Int) ∧ L.length > 64) ∨
       (r.rc ≠ -(E.LPART_TOO_LONG : Int) ∧ r.rc = localOf b m L ∧
          (match m with
           | .m822 => ¬ IsLocal .m822 L
           | .m5321 => ¬ IsLocal .m5321 L
           | .m5322 => ¬ IsLocal .m5322 L
           | .m6531 => ¬ ∃ cps, IsUtf8Of cps L ∧ IsLocal .m6531 (collapse cps)))) := by
  have ho := code_origin b conv m s tld r h (by omega)
  rcases ho with ⟨h1, _⟩ | ⟨h1, _⟩ | ⟨L, D, hs, hnd, hdne, hcase⟩
  · rw [h1] at hcode; exact absurd hcode.2 (by decide)
  · rw [h1] at hcode; exact absurd hcode.1 (by decide)
  · refine ⟨L, D, hs, hnd, ?_⟩
    have hnl : NulFree L := fun c hc => hn c (by rw [hs]; simp [hc])
    rcases hcase with ⟨h1, h2⟩ | ⟨_, h1, h2⟩ | ⟨_, _, hbr, hh⟩ | ⟨_, _, hbr, hh⟩
    · exact .inl ⟨h1, h2⟩
    · refine .inr ⟨?_, h1, ?_⟩
      · have e5 : ((E.LPART_TOO_LONG : Nat) : Int) = 5 := rfl
        rcases localOf_range b m L with hr | hr | hr <;> omega
      · have hl : b.l = {} := by simp [Build.l, hb.1, hb.2]
        cases m with
        | m822 => exact fun hc => h2 ((C02.local_iff_822 L 64 hnl).mpr hc)
        | m5321 => exact fun hc => h2 ((C02.local_iff_5321 L hnl).mpr hc)
        | m5322 => exact fun hc => h2 ((C02.local_iff_5322 L hnl).mpr hc)
        | m6531 =>
          intro hc
          apply h2
          simp only [localOf, hl]
          exact (C03.local6531_iff L).mpr hc
    · -- a host-name outcome is never in the local-part range
      exfalso
      have := C16.hostPart_range hh
      omega
    · exfalso
      have := C16.literalPart_range hh
      omega

/-- every result code of `is_*_email` is 0, a class, or one of the error codes (so it indexes `errors[]`) -/
theorem rc_lower (b : Build) (conv : List Nat → Conv) (m : Mode) (s : List Nat) (tld : Bool) (r : Result)
    (h : isEmail b conv m s tld = .ok r) : -26 ≤ r.rc :=
  (C16.rc_range h).1

/-- the recorded error code is always an index into `errors[]` -/
theorem errcode_lt_max (k : Nat) (r : Result) (ret : Int) (ec : Nat) (msg : Option Int)
    (h : verdictOf k r = .ok (ret, ec, msg)) (hlo : -35 ≤ r.rc) (hhi : r.rc ≤ 9) : ec < E.MAX := by
  simp only [E.MAX]
  rcases verdictOf_ok_cases h with ⟨_, _, rfl, _⟩ | ⟨_, _, he, _⟩ | ⟨_, _, _, ⟨_, rfl⟩ | ⟨_, he⟩⟩ <;> omega

def HasDotDot (s : List Nat) : Prop := ∃ p q, s = p ++ 46 :: 46 :: q

/-- **'too many dots' only if the local part contains `..`** -/
theorem too_many_dots_sound (b : Build) (m : Mode) (L : List Nat)
    (h : localOf b m L = -(E.LPART_TOO_MANY_DOTS : Int)) : HasDotDot L := by
  rw [localOf_eq] at h
  split at h
  · exact absurd h (by decide)
  · exact scan_dots _ _ _ _ _ h

/-! ### domain-side reasons (ASCII modes) -/

/-- what a negative code of the host-name test (`is_ascii_domain`, then `check_tld`) says of the name `a` it was applied to — the
domain part itself in the ASCII modes, its A-label form in mode 6531 -/
theorem hostTest_code_sound {us : Bool} {a : List Nat} {tld : Bool} {rc : Int} {syn : Bool} (ht : HostTest us a tld rc syn)
    (hn : NulFree a) (hne : a ≠ []) (hneg : rc < 0) :
    (-22 ≤ rc ∧ rc ≤ -17 ∧ ¬ HostOk us a) ∨
    (rc = -(E.DOMAIN_NOT_FQDN : Int) ∧ HostOk us a ∧ 46 ∉ a) ∨
    (rc = -(E.TLD_INVALID : Int) ∧ HostOk us a ∧
      ∃ p last, a = p ++ 46 :: last ∧ 46 ∉ last ∧ (last = [] ∨ ∀ row ∈ Gen.tldTable, row.1 ≠ lowerAll last)) := by
  rcases ht with ⟨_, hz, hd⟩ | ⟨_, hd, ht⟩
  · have hr : -22 ≤ rc ∧ rc ≤ -17 := by
      rcases Eav.isAsciiDomain_ok_cases hd with h | h | h
      · exact absurd h hz
      · exact h
      · exact absurd h.1 hne
    exact .inl ⟨hr.1, hr.2, fun hhost => hz (Except.ok.inj (hd.symm.trans ((C04.host_iff _ a hn).mpr hhost)))⟩
  · have hhost : HostOk us a := (C04.host_iff _ a hn).mp hd
    right
    rcases checkTld_ok_cases ht with ⟨_, rfl⟩ | ⟨_, _, rfl⟩ | ⟨_, _, ⟨h46, rfl⟩ | ⟨p, last, e, h46, hrc⟩⟩
    · exact absurd hneg (by decide)
    · exact absurd hneg (by decide)
    · exact .inl ⟨rfl, hhost, h46⟩
    · subst hrc
      rcases C07.isTld_cases last with ⟨hr, hnone⟩ | ⟨r, _, _, hr, _⟩
      · exact .inr ⟨hr, hhost, p, last, e, h46, hnone⟩
      · omega

/-- a `domain …` code only if the domain part really is not a valid host name; `not FQDN` only without a dot;
`invalid TLD` only if the last label is not in the table; an `ip-addr` code only for a bracketed domain, and
`unpaired bracket` only without a closing bracket -/
theorem domain_code_sound (b : Build) (conv : List Nat → Conv) (m : Mode) (hm : m ≠ .m6531) (s : List Nat) (hn : NulFree s)
    (tld : Bool) (r : Result) (h : isEmail b conv m s tld = .ok r) (hneg : r.rc < -15) :
    (r.rc = -(E.DOMAIN_EMPTY : Int) ∧ (64 ∉ s ∨ s.getLast? = some 64)) ∨
    ∃ L D, s = L ++ 64 :: D ∧ 64 ∉ D ∧ D ≠ [] ∧
      ((-22 ≤ r.rc ∧ r.rc ≤ -17 ∧ D.head? ≠ some 91 ∧ ¬ HostOk b.underscore D) ∨
       (r.rc = -(E.DOMAIN_NOT_FQDN : Int) ∧ HostOk b.underscore D ∧ 46 ∉ D) ∨
       (r.rc = -(E.TLD_INVALID : Int) ∧ HostOk b.underscore D ∧
          ∃ p last, D = p ++ 46 :: last ∧ 46 ∉ last ∧ (last = [] ∨ ∀ row ∈ Gen.tldTable, row.1 ≠ lowerAll last)) ∨
       (r.rc = -(E.IPADDR_INVALID : Int) ∧ D.head? = some 91) ∨
       (r.rc = -(E.IPADDR_BRACKET_UNPAIR : Int) ∧ D.head? = some 91 ∧ 93 ∉ D)) := by
  have ho := code_origin b conv m s tld r h (by omega)
  rcases ho with ⟨h1, _⟩ | ⟨h1, h2⟩ | ⟨L, D, hs, hnd, hdne, hcase⟩
  · rw [h1] at hneg; exact absurd hneg (by decide)
  · left; exact ⟨h1, h2⟩
  · right
    refine ⟨L, D, hs, hnd, hdne, ?_⟩
    have hnD : NulFree D := fun c hc => hn c (by rw [hs]; simp [hc])
    rcases hcase with ⟨h1, _⟩ | ⟨_, h1, h2⟩ | ⟨_, _, hbr, hh⟩ | ⟨_, _, hbr, hh⟩
    · rw [h1] at hneg; exact absurd hneg (by decide)
    · have := localOf_range b m L
      rw [← h1] at this
      rcases this with h | h | h <;> omega
    · -- host name: the syntax test, then `check_tld`
      obtain ⟨_, syn, ht, _⟩ := (hostPart_ok_cases hh).resolve_right (fun h => hm h.1)
      rcases hostTest_code_sound ht hnD hdne (by omega) with ⟨h1, h2, h3⟩ | h | h
      · exact .inl ⟨h1, h2, hbr, h3⟩
      · exact .inr (.inl h)
      · exact .inr (.inr (.inl h))
    · -- literal: `unpaired bracket` only when `strrchr (brs, ']') == NULL`
      right; right; right
      rcases literalPart_rc hh with ⟨h0, _⟩ | ⟨_, h24 | ⟨h25, hn⟩⟩
      · omega
      · exact .inl ⟨h24, hbr⟩
      · exact .inr ⟨h25, hbr, hn⟩

/-- `a..b` makes mode 5321 report "too many dots", and it does contain `..` -/
example : localOf {} .m5321 [97, 46, 46, 98] = -(E.LPART_TOO_MANY_DOTS : Int) ∧ HasDotDot [97, 46, 46, 98] :=
  ⟨by decide, ⟨[97], [98], rfl⟩⟩
/-- a local-part code: `a b@c.d` in mode 5321 gives "special characters" (code 7) -/
example : (isEmail {} (fun _ => ⟨0, none⟩) .m5321 [97, 32, 98, 64, 99, 46, 100] false).map (·.rc) = .ok (-(E.LPART_SPECIAL : Int)) := by decide
/-- a domain code: `a@-b.c` gives "misplaced hyphen" -/
example : (isEmail {} (fun _ => ⟨0, none⟩) .m5321 [97, 64, 45, 98, 46, 99] false).map (·.rc) = .ok (-(E.DOMAIN_MISPLACED_HYPHEN : Int)) := by decide

end Eav.Props.C15
