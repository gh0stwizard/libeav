import Eav.Model
import Eav.Props.C13
/-!
# C19 — failures of the IDN library are contained

The conversion is a parameter of the model: `c : Conv` is whatever the IDN library answers during the call —
any return code, with or without an output buffer.  The theorems are unconditional in `c`.
-/
namespace Eav.Props.C19
open Eav

/-- **rejected with the IDN error code, nothing treated as a domain**: when the local part is valid for mode 6531
and the domain is a non-empty non-bracketed string, a failing conversion makes `is_6531_email` return
`-EEAV_IDN_ERROR` with `idn_rc` the library's code, no form flag, no strings — whatever the code, whether or not
an output buffer came with it, with TLD checking on or off -/
theorem idn_failure_rejected (b : Build) (c : Conv) (L D : List Nat) (tld : Bool)
    (hc : c.rc ≠ 0) (hD : 64 ∉ D) (hDne : D ≠ []) (hbr : D.head? ≠ some 91)
    (hL : L.length ≤ 64) (hloc : localOf b .m6531 L = 0) :
    isEmail b (fun _ => c) .m6531 (L ++ 64 :: D) tld = .ok { rc := -(E.IDN_ERROR : Int), idnRc := c.rc } := by
  rw [isEmail_at b _ .m6531 tld L hD, if_neg hDne, if_neg (by omega), if_neg (not_not_intro hloc), if_pos hbr,
    hostPart_6531, isUtf8Domain_fail b (conv := fun _ => c) tld hDne hc]
  rfl

/-- the policy step then reports `EEAV_IDN_ERROR` and keeps the library's code for the message -/
theorem idn_failure_verdict (k : Nat) (irc : Int) :
    verdictOf k { rc := -(E.IDN_ERROR : Int), idnRc := irc } = .ok (0, E.IDN_ERROR, some irc) := by
  rw [verdictOf_eq]; rfl

/-- **the whole call**: return value 0, error code `EEAV_IDN_ERROR`, `eav_errstr` = the IDN library's message for the
returned code; one record live (no leak, no double free); the ledger invariant holds, so by `C13.isEmail_outcome`
the next validation on the same object behaves as on a fresh one -/
theorem idn_failure_contained (be : Backend) (b : Build) (c : Conv) (st : State) (e : EavT) (L D : List Nat)
    (hinv : C13.Inv be st) (hobj : st.obj = some e) (hm : C01.modeOfObj e = some .m6531)
    (hc : c.rc ≠ 0) (hD : 64 ∉ D) (hDne : D ≠ []) (hbr : D.head? ≠ some 91)
    (hL : L.length ≤ 64) (hloc : localOf b .m6531 L = 0) :
    ∃ st', step be b st (.isEmail (L ++ 64 :: D) c) =
        .ok (st', .verdict 0 E.IDN_ERROR (.idn c.rc) { rc := -(E.IDN_ERROR : Int), idnRc := c.rc }) ∧
      st'.liveResults = 1 ∧ C13.Inv be st' := by
  have he := (C13.eavIsEmail_ok_iff (b := b) hinv hobj).mpr ⟨_, _, _, _, C01.modeOfObj_eq_some.mp hm,
    idn_failure_rejected b c L D e.tldCheck hc hD hDne hbr hL hloc, idn_failure_verdict _ _, rfl⟩
  exact ⟨_, step_isEmail_iff.mpr ⟨_, _, _, _, he, rfl, rfl, rfl, rfl⟩, rfl, C13.inv_afterCall hinv hobj ..⟩

/-- non-vacuity: `a@b.c` in mode 6531 with the library answering IDN2_MALLOC (-100), with an output buffer attached -/
example : isEmail {} (fun _ => ⟨-100, some [120]⟩) .m6531 [97, 64, 98, 46, 99] true = .ok { rc := -2, idnRc := -100 } :=
  idn_failure_rejected {} ⟨-100, some [120]⟩ [97] [98, 46, 99] true (by decide) (by decide) (by decide) (by decide) (by decide)
    (by decide +kernel)

end Eav.Props.C19
