import Eav.Model
import Eav.Props.Tie.Init
import Eav.Lemmas.Api
/-!
# C08 — allow_tld / tld_check policy

`verdictOf` is everything `eav_is_email` does after the mode's callback returned: `rc = 0` accepts,
`rc < 0` rejects with code `-rc`, a TLD class `1..9` goes through the `switch` (`policyArm`), anything
else reaches `abort ()`.  The arms are compared with the library over the complete finite domain
(2^11 masks x every result code) on every run; the theorems hold for every mask, not only 11-bit ones.
-/
namespace Eav.Props.C08
open Eav

/-- every class has an arm: its own error code `EEAV_TLD_x = 26 + class` and its own bit `1 << (class + 1)` -/
theorem policyArm_eq (c : Nat) (h1 : 1 ≤ c) (h9 : c ≤ 9) : policyArm (c : Int) = some (26 + c, Spec.bitOfClass c) := by
  rw [policyArm_eq_ite, if_pos ⟨by omega, by omega⟩, Int.toNat_natCast]; rfl

/-- **acceptance iff the bit of the TLD class is set in allow_tld**; the code of a refused class is the class's code -/
theorem policy_iff (k : Nat) (r : Result) (c : Nat) (hrc : r.rc = (c : Int)) (h1 : 1 ≤ c) (h9 : c ≤ 9) :
    verdictOf k r = .ok (if k.testBit (c + 1) then (1, 0, none) else (0, 26 + c, none)) := by
  rw [verdictOf_eq, if_neg (by omega), if_neg (by omega), if_pos (by omega), hrc, Int.toNat_natCast]

/-- each class is governed by its own bit and by no other bit: masks that agree on bit `class + 1`
give the same outcome -/
theorem own_bit_only (k k' : Nat) (r : Result) (c : Nat) (hrc : r.rc = (c : Int)) (h1 : 1 ≤ c) (h9 : c ≤ 9)
    (h : k.testBit (c + 1) = k'.testBit (c + 1)) : verdictOf k r = verdictOf k' r := by
  rw [policy_iff k r c hrc h1 h9, policy_iff k' r c hrc h1 h9, h]

/-- an unlisted TLD, a non-FQDN, any negative result is rejected whatever the mask, with code `-rc` -/
theorem negative_rc_any_mask (k : Nat) (r : Result) (h : r.rc < 0) :
    ∃ msg, verdictOf k r = .ok (0, (-r.rc).toNat, msg) := by
  rw [verdictOf_eq, if_neg (by omega), if_pos h]
  exact ⟨_, rfl⟩

/-- `rc = 0` (TLD checking off, or an address literal) is accepted whatever the mask -/
theorem zero_rc_any_mask (k : Nat) (r : Result) (h : r.rc = 0) : verdictOf k r = .ok (1, 0, none) := by
  rw [verdictOf_eq, if_pos h]

/-- hence: when the callback's result is not a TLD class the mask plays no role -/
theorem mask_irrelevant_unless_class (k k' : Nat) (r : Result) (h : r.rc ≤ 0) : verdictOf k r = verdictOf k' r := by
  rw [verdictOf_eq, verdictOf_eq]
  by_cases h0 : r.rc = 0
  · rw [if_pos h0, if_pos h0]
  · have hn : r.rc < 0 := by omega
    rw [if_neg h0, if_neg h0, if_pos hn, if_pos hn]

/-- `abort ()` is reached only for a positive result that is not one of the nine classes -/
theorem abort_only_outside_classes (k : Nat) (r : Result) (h : verdictOf k r = .error .abort) : 9 < r.rc :=
  ((verdictOf_error_iff k r _).mp h).1

/-- `eav_init` selects mode 6531, TLD checking on, and every class except not-assigned, test and retired
(the values are tied to the compiled `eav_init` by `GenTie.init_values`) -/
theorem init_defaults :
    ∃ e, (eavInit {}).obj = some e ∧ e.rfc = 3 ∧ e.tldCheck = true ∧
      (∀ c, 1 ≤ c → c ≤ 9 → (e.allowTld.testBit (c + 1) = true ↔ c ∈ [T.COUNTRY_CODE, T.GENERIC, T.GENERIC_RESTRICTED, T.INFRASTRUCTURE, T.SPONSORED, T.SPECIAL])) := by
  refine ⟨_, rfl, rfl, rfl, ?_⟩
  intro c h1 h9
  have : c = 1 ∨ c = 2 ∨ c = 3 ∨ c = 4 ∨ c = 5 ∨ c = 6 ∨ c = 7 ∨ c = 8 ∨ c = 9 := by omega
  rcases this with rfl | rfl | rfl | rfl | rfl | rfl | rfl | rfl | rfl <;> decide

/-- non-vacuity: class generic (3) under the default mask is accepted, under mask 8 (country-code only) refused with EEAV_TLD_GENERIC -/
example : verdictOf defaultMask { rc := 3 } = .ok (1, 0, none) ∧ verdictOf 8 { rc := 3 } = .ok (0, 29, none) := by decide

end Eav.Props.C08
