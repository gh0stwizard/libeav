import Eav.Model
import Eav.Lemmas.Utf8
/-!
# C20 — the `eav` tool (model of `bin/main.c`, `bin/main.h`)

The tool's line splitting (`getline`), trimming and rendering are modelled in `Eav/Cli.lean` and compared with
the real binary on every run.  Proved here, for every file / line: the records `getline` returns partition the
file, so there is exactly one record, hence at most one verdict, per input line, in input order; a plain line is
handed to the validator as written and echoed unchanged; each line stands alone.  `sanitize` is total (well-founded
recursion on the length): the rendering terminates on arbitrary bytes, invalid UTF-8 included — there is no
assertion left to fail and no fixed-size buffer.
stdio, `getline`'s reallocation and process exit are runtime behaviour, observed on the real binary.
-/
namespace Eav.Props.C20
open Eav Eav.Spec

theorem getlinesAux_flatten (inp acc : List Nat) : (getlinesAux acc inp).flatten = acc.reverse ++ inp := by
  fun_induction getlinesAux acc inp <;> simp_all

/-- the `getline` records partition the file -/
theorem getlines_flatten (file : List Nat) : (getlines file).flatten = file := by
  simp [getlines, getlinesAux_flatten]

/-- every record but possibly the last ends with LF, and LF occurs nowhere else in a record -/
theorem getlinesAux_records : ∀ (inp acc : List Nat), 10 ∉ acc → ∀ r ∈ getlinesAux acc inp,
    (r.getLast? = some 10 ∧ 10 ∉ r.dropLast) ∨ 10 ∉ r := by
  intro inp acc hacc
  fun_induction getlinesAux acc inp
  · simp
  · simp_all
  · rename_i acc c cs hc ih            -- a line feed closes the record `acc.reverse ++ [c]`
    obtain rfl : c = 10 := by simpa using hc
    intro r hr
    rcases List.mem_cons.mp hr with rfl | hr
    · left; simpa using hacc
    · exact ih (by simp) r hr
  · rename_i acc c cs hc ih
    have hc' : c ≠ 10 := by simpa using hc
    exact ih (by simp [hc'.symm, hacc])

/-- a character that is not a control character is copied byte for byte -/
theorem sanitize_clean : ∀ (n : Nat) (text : List Nat), text.length ≤ n → ∀ (cps : List Nat), decAll text = some cps →
    (∀ cp ∈ cps, ¬ (cp < 32 ∨ cp = 127)) → sanitize text = text := by
  intro n text hn
  clear hn                             -- the bound is not needed: the induction is the one `sanitize` is defined by
  fun_induction sanitize text with
  | case1 text hdn => intro _ _ _; exact (decodeNext_fin hdn).symm
  | case2 text hdn => intro cps hd; rw [decAll_err hdn] at hd; cases hd
  | case3 text c rest hdn ih =>
    intro cps hd hclean
    obtain ⟨_, hs⟩ := decodeNext_sound hdn
    obtain ⟨cps', hr, rfl⟩ := Option.map_eq_some_iff.mp (decAll_step hdn ▸ hd)
    have hc : (decide (c < 32) || c == 127) = false := by simpa using hclean c (by simp)
    rw [hc, ih cps' hr (fun cp hcp => hclean cp (by simp [hcp]))]
    simp [hs]

/-- **echo**: a line that is well-formed UTF-8 (C03's `IsUtf8Of`) without control characters is rendered unchanged -/
theorem echo_unchanged (text cps : List Nat) (h : IsUtf8Of cps text) (hclean : ∀ cp ∈ cps, ¬ (cp < 32 ∨ cp = 127)) :
    sanitize text = text :=
  sanitize_clean _ text (Nat.le_refl _) cps ((decAll_iff text cps).mpr h) hclean

theorem cstr_nulfree : ∀ (l : List Nat), (∀ c ∈ l, c ≠ 0) → cstr l = l
  | [], _ => rfl
  | c :: cs, h => by
    have h0 : (c == 0) = false := by simpa using h c (by simp)
    simp only [cstr, h0, Bool.false_eq_true, if_false, cstr_nulfree cs (fun d hd => h d (by simp [hd]))]

/-- the record without its line terminator, as a C string -/
def recText (rec : List Nat) : List Nat :=
  let n := rec.length
  cstr (if n ≥ 2 && rec.drop (n - 2) == [13, 10] then rec.take (n - 2)
        else if n ≥ 1 && rec.getLast? == some 10 then rec.take (n - 1) else rec)

/-- `trimLine` on the text of the record -/
def trimText (line : List Nat) : Option (List Nat) :=
  if line.head? == some 35 then none
  else
    let cp := if line.head? == some 32 then line.drop 1 else line
    if cp.getLast? == some 32 || cp.getLast? == some 9 then some cp.dropLast else some cp

theorem trimLine_eq (rec : List Nat) : trimLine rec = trimText (recText rec) := rfl

/-- the CRLF test of `parse_file`: `memcmp (line + read - 2, "\r\n", 2) == 0` -/
theorem crlf_test (rec : List Nat) : (rec.drop (rec.length - 2) == [13, 10]) = true ↔ [13, 10] <:+ rec := by
  rw [beq_iff_eq, eq_comm]; exact List.suffix_iff_eq_drop.symm

/-- the text of a record whose line ending is `LF`, `CRLF` or missing, when the line holds no NUL or LF and does not end in CR -/
theorem recText_plain (addr eol : List Nat) (heol : eol = [10] ∨ eol = [13, 10] ∨ eol = [])
    (h0 : ∀ c ∈ addr, c ≠ 0) (hlf : ∀ c ∈ addr, c ≠ 10) (hcr : addr.getLast? ≠ some 13) : recText (addr ++ eol) = addr := by
  have hl10 : addr.getLast? ≠ some 10 := fun h => hlf 10 (List.mem_of_getLast? h) rfl
  rcases heol with rfl | rfl | rfl
  · -- LF only: the CRLF test fails because the byte before LF is not CR
    have t1 : ((addr ++ [10]).drop ((addr ++ [10]).length - 2) == [13, 10]) = false := by
      rw [Bool.eq_false_iff, Ne, crlf_test]
      exact fun h => hcr (List.singleton_suffix_iff_getLast?_eq_some.mp (List.suffix_append_self_iff (l₁ := [13]) (l₃ := [10]) |>.mp h))
    simp only [recText, t1, Bool.and_false, Bool.false_eq_true, if_false]
    simp [cstr_nulfree addr h0]
  · have t1 : ((addr ++ [13, 10]).drop ((addr ++ [13, 10]).length - 2) == [13, 10]) = true :=
      (crlf_test _).mpr (List.suffix_append _ _)
    simp only [recText, t1, Bool.and_true]
    simp [cstr_nulfree addr h0]
  · have t1 : (addr.drop (addr.length - 2) == [13, 10]) = false := by
      rw [Bool.eq_false_iff, Ne, crlf_test]
      exact fun h => hl10 (List.singleton_suffix_iff_getLast?_eq_some.mp ((List.suffix_cons 13 [10]).trans h))
    simp [recText, t1, hl10, cstr_nulfree addr h0]

/-- a plain line — no NUL, no leading `#` or blank, no trailing blank or tab, no CR at its end — is handed to
`eav_is_email` exactly as written, whatever its line ending (`LF`, `CRLF`, or none on the last line) -/
theorem trim_plain (addr eol : List Nat) (heol : eol = [10] ∨ eol = [13, 10] ∨ eol = [])
    (h0 : ∀ c ∈ addr, c ≠ 0) (hlf : ∀ c ∈ addr, c ≠ 10)
    (hh : addr.head? ≠ some 35) (hs : addr.head? ≠ some 32)
    (hl : addr.getLast? ≠ some 32 ∧ addr.getLast? ≠ some 9 ∧ addr.getLast? ≠ some 13) :
    trimLine (addr ++ eol) = some addr := by
  rw [trimLine_eq, recText_plain addr eol heol h0 hlf hl.2.2]
  simp [trimText, hh, hs, hl.1, hl.2.1]

/-- at most one address, hence at most one verdict, per `getline` record -/
theorem verdicts_le_lines (file : List Nat) : (cliLines file).length ≤ (getlines file).length :=
  List.length_filterMap_le _ _

/-- a comment line produces no verdict -/
example : trimLine [35, 97, 10] = none := by decide
example : trimLine [32, 97, 64, 98, 32, 13, 10] = some [97, 64, 98] := by decide

/-! ### Each line stands alone -/

/-- reading a file whose first part ends with a line feed: the records are those of the first part followed by those of the rest -/
theorem getlinesAux_append_lf : ∀ (f1 acc f2 : List Nat),
    getlinesAux acc (f1 ++ 10 :: f2) = getlinesAux acc (f1 ++ [10]) ++ getlinesAux [] f2 := by
  intro f1 acc f2
  fun_induction getlinesAux acc f1 <;> simp_all [getlinesAux]

/-- **each line stands alone**: for a file `f1 ++ "\n" ++ f2` the tool validates the lines of `f1 ++ "\n"` and then the lines of `f2` — what is
handed to the validator for a line does not depend on the lines before or after it (and the validator is a function of its argument,
C13 `isEmail_outcome`), so a line's verdict is the verdict it gets as the only line of a file -/
theorem cliLines_append_lf (f1 f2 : List Nat) : cliLines (f1 ++ 10 :: f2) = cliLines (f1 ++ [10]) ++ cliLines f2 := by
  unfold cliLines getlines
  rw [getlinesAux_append_lf f1 [] f2, List.filterMap_append]

/-- in particular a one-line prefix: `line ++ "\n" ++ rest` -/
example : cliLines ([97, 64, 120, 46, 99, 111, 109, 10] ++ [97, 64, 120, 46, 99, 111, 10]) =
          cliLines [97, 64, 120, 46, 99, 111, 109, 10] ++ cliLines [97, 64, 120, 46, 99, 111, 10] := by decide

end Eav.Props.C20
