import Eav.Model
import Eav.Lemmas.Str
import Eav.Props.C11
/-!
# C07 — the TLD class is the class of the shipped IANA table, matched on the whole last label

`isTld` is the model of `src/is_tld.c` (linear scan with `strncasecmp (tld->domain, start, tld->length)`)
over `Gen.tldTable`, the table compiled into the library on this run.
-/
namespace Eav.Props.C07
open Eav

/-- the class a table assigns to a label: the first row whose name is the lower-cased label -/
def lookup (table : List (List Nat × Nat × Nat)) (s : List Nat) : Int :=
  match table.find? (fun r => r.1 == lowerAll s) with
  | some r => (r.2.2 : Int)
  | none => -(E.TLD_INVALID : Int)

/-- The scan compares WHOLE labels, ASCII-case-insensitively: because every `length` field is
`strlen + 1` the terminator takes part in the comparison, so a prefix, a suffix or an extension of a
listed name never matches. -/
theorem tldScan_eq_lookup (table : List (List Nat × Nat × Nat)) (s : List Nat)
    (hlen : ∀ r ∈ table, r.2.1 = r.1.length + 1) (hlow : ∀ r ∈ table, isLowerName r.1 = true) :
    tldScan table s = lookup table s := by
  induction table with
  | nil => simp [tldScan, lookup]
  | cons r rows ih =>
    obtain ⟨name, len, type⟩ := r
    have h1 : len = name.length + 1 := hlen (name, len, type) (by simp)
    have h2 : lowerAll name = name := lowerAll_of_isLowerName (hlow (name, len, type) (by simp))
    have ih' := ih (fun r hr => hlen r (by simp [hr])) (fun r hr => hlow r (by simp [hr]))
    simp only [tldScan, lookup, List.find?_cons]
    rw [strncaseeq_full name s len (.inl (by omega)), h2]
    by_cases hm : (name == lowerAll s) = true
    · simp [hm]
    · simp only [hm, Bool.false_eq_true, if_false]
      rw [ih']
      simp [lookup]

theorem table_row : ∀ r ∈ Gen.tldTable, r.2.1 = r.1.length + 1 ∧ 1 ≤ r.2.2 ∧ r.2.2 ≤ 9 := by
  intro r hr
  have := List.all_eq_true.mp C11.lengths_and_types r hr
  simpa [and_assoc] using this

theorem table_lower : ∀ r ∈ Gen.tldTable, isLowerName r.1 = true := by
  intro r hr
  have h1 := List.all_eq_true.mp C11.names_lower_alabel r hr
  simp only [Bool.and_eq_true, List.all_eq_true] at h1
  simp only [isLowerName, List.all_eq_true]
  intro c hc
  have := h1.2 c hc
  simp [isLower, isDigit, isUpper] at this ⊢
  omega

/-- **listed label ⇒ exactly its listed class, unlisted label ⇒ invalid TLD** (for every label, every letter case) -/
theorem isTld_eq_lookup (s : List Nat) (hs : s ≠ []) : isTld s = lookup Gen.tldTable s := by
  rw [isTld, isTldIn, List.isEmpty_eq_false_iff.mpr hs, if_neg Bool.false_ne_true]
  exact tldScan_eq_lookup _ _ (fun r hr => (table_row r hr).1) table_lower

/-- `lookup` finds no row named like the label, or answers with the class of such a row -/
theorem lookup_cases (table : List (List Nat × Nat × Nat)) (s : List Nat) :
    (lookup table s = -(E.TLD_INVALID : Int) ∧ ∀ r ∈ table, r.1 ≠ lowerAll s) ∨
    ∃ r ∈ table, r.1 = lowerAll s ∧ lookup table s = (r.2.2 : Int) := by
  unfold lookup
  cases hf : table.find? (fun r => r.1 == lowerAll s) with
  | none => exact .inl ⟨rfl, fun r hr he => by simpa [he] using List.find?_eq_none.mp hf r hr⟩
  | some r => exact .inr ⟨r, List.mem_of_find?_eq_some hf, by simpa using List.find?_some hf, rfl⟩

/-- **everything `is_tld` can answer**: `-EEAV_TLD_INVALID` for the empty label and for a label that is not a listed name;
otherwise the class, one of the nine, of the row whose name is the lower-cased label -/
theorem isTld_cases (s : List Nat) :
    (isTld s = -(E.TLD_INVALID : Int) ∧ (s = [] ∨ ∀ r ∈ Gen.tldTable, r.1 ≠ lowerAll s)) ∨
    ∃ r ∈ Gen.tldTable, r.1 = lowerAll s ∧ isTld s = (r.2.2 : Int) ∧ 1 ≤ r.2.2 ∧ r.2.2 ≤ 9 := by
  by_cases hs : s = []
  · exact .inl ⟨hs ▸ rfl, .inl hs⟩
  · rw [isTld_eq_lookup s hs]
    exact (lookup_cases Gen.tldTable s).imp (fun ⟨h, hn⟩ => ⟨h, .inr hn⟩)
      fun ⟨r, hr, hn, h⟩ => ⟨r, hr, hn, h, (table_row r hr).2⟩

/-- a class is reported only for a label that IS a listed name (never for a prefix, suffix or extension) -/
theorem whole_label (s : List Nat) (hs : s ≠ []) (c : Int) (hc : isTld s = c) (hpos : 0 < c) :
    ∃ r ∈ Gen.tldTable, r.1 = lowerAll s ∧ (r.2.2 : Int) = c := by
  rw [isTld_eq_lookup s hs] at hc
  rcases lookup_cases Gen.tldTable s with ⟨h, _⟩ | ⟨r, hr, hn, h⟩
  · rw [← hc, h] at hpos; exact absurd hpos (by decide)
  · exact ⟨r, hr, hn, h.symm.trans hc⟩

/-- the class depends on the label only through its lower-case form -/
theorem case_insensitive (s t : List Nat) (hs : s ≠ []) (ht : t ≠ []) (h : lowerAll s = lowerAll t) :
    isTld s = isTld t := by
  rw [isTld_eq_lookup s hs, isTld_eq_lookup t ht]; simp [lookup, h]

theorem isTld_lowerAll (s : List Nat) : isTld (lowerAll s) = isTld s := by
  cases s with
  | nil => rfl
  | cons c cs => exact case_insensitive _ _ (by simp) (by simp) (lowerAll_idem _)

/-- relation between the compiled table and the CSV, lifted through `C11.table_eq_gen` -/
theorem lookup_csv : ∀ (csv : List (List Nat × List Nat × List Nat)) (tbl : List (List Nat × Nat × Nat)) (s : List Nat),
    csv.map Spec.genRow = tbl.map some →
    lookup tbl s = (match Spec.csvClass csv s with | some c => (c : Int) | none => -(E.TLD_INVALID : Int))
  | [], [], s, _ => by simp [lookup, Spec.csvClass]
  | [], _ :: _, _, h => by simp at h
  | _ :: _, [], _, h => by simp at h
  | c :: cs, t :: ts, s, h => by
    simp only [List.map_cons, List.cons.injEq] at h
    obtain ⟨h1, h2⟩ := h
    have ih := lookup_csv cs ts s h2
    obtain ⟨cls, hc, rfl⟩ := Option.map_eq_some_iff.mp h1
    simp only [lookup, Spec.csvClass, List.find?_cons] at ih ⊢
    by_cases hm : (c.1 == lowerAll s) = true
    · simp [hm, hc]
    · simp only [hm]
      exact ih

/-- **the library answers exactly as data/punycode.csv dictates** -/
theorem isTld_eq_csv (s : List Nat) (hs : s ≠ []) :
    isTld s = (match Spec.csvClass Gen.csvPuny s with | some c => (c : Int) | none => -(E.TLD_INVALID : Int)) := by
  rw [isTld_eq_lookup s hs]
  exact lookup_csv _ _ s C11.table_eq_gen

/-- non-vacuity: `com` is generic, `COM` too, `co` is a country code, `comm` is not a TLD -/
example : isTld [99, 111, 109] = 3 ∧ isTld [67, 79, 77] = 3 ∧ isTld [99, 111] = 2 ∧ isTld [99, 111, 109, 109] = -26 := by
  unfold isTld Gen.tldTable; simp only [↓List.append_assoc]; decide +kernel

end Eav.Props.C07
