import Eav.Model
import Eav.Props.C04
import Eav.Props.Tie.Build
import Eav.Props.Tie.Scanners
/-!
# C17 — build options change exactly what they document and nothing else

`Build` carries the three make options.  The Makefile defaults (all OFF) and the option → macro mapping are
`GenTie.buildOpts_eq`; the `case` lists per option are `GenTie.specials_eq`.
-/
namespace Eav.Props.C17
open Eav Eav.Spec

/-! ### each option leaves every other decision unchanged (by construction of the code, mirrored in the model) -/

/-- the scanners of modes 822 / 5321 / 5322 do not look at any option -/
theorem ascii_locals_ignore_options (b b' : Build) (m : Mode) (hm : m ≠ .m6531) (L : List Nat) :
    localOf b m L = localOf b' m L := by
  cases m <;> first | rfl | exact absurd rfl hm

/-- no local-part function looks at `LABELS_ALLOW_UNDERSCORE` -/
theorem locals_ignore_underscore (b : Build) (u : Bool) (m : Mode) (L : List Nat) :
    localOf { b with underscore := u } m L = localOf b m L := by
  cases m <;> rfl

/-- no host-name function looks at the two local-part options -/
theorem domain_ignores_local_options (b : Build) (x y : Bool) (s after : List Nat) :
    isAsciiDomain ({ b with rfc20 := x, rfc5322 := y } : Build).underscore s after = isAsciiDomain b.underscore s after := rfl

/-- **LABELS_ALLOW_UNDERSCORE accepts exactly the host names that are valid when `_` counts as a letter** -/
theorem underscore_iff (s : List Nat) (hn : NulFree s) : isAsciiDomain true s [0] = .ok 0 ↔ HostOk true s :=
  C04.host_iff true s hn

/-- … and a host name valid without the option stays valid with it -/
theorem underscore_monotone (s : List Nat) (h : HostOk false s) : HostOk true s := by
  obtain ⟨labels, root, h1, h2, h3, h4, h5, h6⟩ := h
  refine ⟨labels, root, h1, h2, ?_, h4, h5, h6⟩
  intro l hl
  have := h3 l hl
  simp only [okLabel, Bool.and_eq_true, List.all_eq_true, letDig] at this ⊢
  refine ⟨⟨⟨this.1.1.1, fun c hc => ?_⟩, this.1.2⟩, this.2⟩
  have := this.1.1.2 c hc
  simp at this ⊢
  rcases this with h | h
  · exact Or.inl (Or.inl h)
  · exact Or.inr h

/-- **RFC6531_FOLLOW_RFC5322 makes mode 6531 judge pure-ASCII local parts as mode 5322 does** — same return code -/
theorem rfc5322_ascii (s : List Nat) (hasc : ∀ c ∈ s, c < 128 ∧ c ≠ 0) :
    is6531Local { rfc20 := false, rfc5322 := true } s = is5322Local s := by
  rw [is6531Local_eq, is5322Local_eq]
  -- the two configurations differ in the `utf8` flag only
  exact congrArg _ (scan_ascii .m5322 none false false s fun c hc => ⟨Nat.le_of_lt_succ (hasc c hc).1, (hasc c hc).2⟩)

/-- well-formed UTF-8 stays necessary in every build -/
theorem utf8_necessary_all_builds (lb : LBuild) (s : List Nat) (h : is6531Local lb s = 0) : IsUtf8 s := by
  rw [is6531Local_eq] at h
  split at h
  · exact absurd h (by decide)
  · obtain ⟨cps, hc⟩ := scan_decodes _ rfl rfl _ _ _ _ h
    exact ⟨cps, (decAll_iff s cps).mp hc⟩

/-- the option changes nothing for a local part that contains none of the seven characters (same return code) -/
theorem rfc20_no_effect (r5322 : Bool) (s : List Nat) (h : ∀ c ∈ s, rfc20set.contains c = false) :
    is6531Local { rfc20 := true, rfc5322 := r5322 } s = is6531Local { rfc20 := false, rfc5322 := r5322 } s := by
  rw [is6531Local_eq, is6531Local_eq]
  exact congrArg _ (scan_extra (.m6531 { rfc5322 := r5322 }) rfc20set none false false s h)

/-- "one of `ex` occurs outside quotes": a quoted run starts at `"` and ends at the next `"` that is not escaped
by a backslash (state: inside quotes, after a backslash) -/
def outsideHit (ex : List Nat) : Bool → Bool → List Nat → Bool
  | _, _, [] => false
  | q, esc, c :: cs =>
    if !q then (if c == 34 then outsideHit ex true false cs else ex.contains c || outsideHit ex false false cs)
    else if esc then outsideHit ex true false cs
    else if c == 34 then outsideHit ex false false cs
    else if c == 92 then outsideHit ex true true cs
    else outsideHit ex true false cs

/-- the quote state after an ASCII character, as the scanners and `outsideHit` both compute it -/
def quoteNext (q qp : Bool) (c : Nat) : Bool × Bool :=
  if !q then (c == 34, false) else if qp then (true, false) else if c == 34 then (false, false) else (true, c == 92)

theorem outsideHit_cons (ex : List Nat) (q qp : Bool) (c : Nat) (cs : List Nat) (h : q = false → qp = false) :
    outsideHit ex q qp (c :: cs) =
      ((!q && !(c == 34) && ex.contains c) || outsideHit ex (quoteNext q qp c).1 (quoteNext q qp c).2 cs) := by
  cases h34 : c == 34 <;> cases h92 : c == 92 <;> cases q <;> cases qp <;> simp [outsideHit, quoteNext, h34, h92] at h ⊢

/-- outside quotes there is no pending backslash, before and after a character -/
theorem quoteNext_inv {q qp : Bool} (c : Nat) (h : q = false → qp = false) :
    (quoteNext q qp c).1 = false → (quoteNext q qp c).2 = false := by
  cases q <;> cases qp <;> simp [quoteNext] at h ⊢ <;> split <;> simp

/-- every arm of the step that goes on after an ASCII character leaves `quoteNext` in `(quote, qpair)`; only folding skips bytes -/
theorem scanStep_go_quote {k : Scan} (hf : k.fold = false) {prev first : Option Nat} {q qp : Bool} {c : Nat} {rest : List Nat}
    {p : Option Nat} {q' qp' : Bool} {n : Nat} (hc : c ≤ 127) (hq : q = false → qp = false)
    (h : scanStep k prev first q qp c rest = .go p q' qp' n) : (q', qp') = quoteNext q qp c ∧ n = 0 := by
  revert h
  fun_cases scanStep k prev first q qp c rest <;> intro h <;> cases h <;> simp_all [quoteNext] <;>
    first | omega | exact unquotedStep_ok ‹_›

/-- additional specials that are ASCII and neither DQUOTE, dot nor one of `specials` -/
def Extra (ex : List Nat) : Prop := ∀ c, ex.contains c = true → c ≤ 127 ∧ (c == 34 || c == 46 || specials.contains c) = false

theorem outsideHit_high {ex : List Nat} (hex : Extra ex) (q : Bool) : ∀ (hi rest : List Nat), (∀ b ∈ hi, b ≥ 128) →
    outsideHit ex q false (hi ++ rest) = outsideHit ex q false rest
  | [], _, _ => rfl
  | b :: hi, rest, h => by
    have hb : b ≥ 128 := h b (by simp)
    have hx : ex.contains b = false := by
      cases hc : ex.contains b
      · rfl
      · have := (hex b hc).1; omega
    rw [List.cons_append, outsideHit_cons _ _ _ _ _ (fun _ => rfl), hx, Bool.and_false, Bool.false_or]
    have : quoteNext q false b = (q, false) := by
      have h34 : (b == 34) = false := by simp; omega
      have h92 : (b == 92) = false := by simp; omega
      cases q <;> simp [quoteNext, h34, h92]
    rw [this]
    exact outsideHit_high hex q hi rest (fun x hx => h x (by simp [hx]))

/-- with additional specials the step is the same, except that outside quotes one of them is refused where the scan would go on -/
theorem scanStep_extra {ex : List Nat} (k : Scan) (hex : Extra ex) (prev first : Option Nat) (q qp : Bool) (c : Nat) (rest : List Nat) :
    scanStep { k with extra := ex } prev first q qp c rest =
      if (!q && ex.contains c) = true then
        match scanStep { k with extra := [] } prev first q qp c rest with
        | .ret r => .ret r
        | .go .. => .ret (-(E.LPART_SPECIAL : Int))
      else scanStep { k with extra := [] } prev first q qp c rest := by
  cases hx : ex.contains c
  · simp only [Bool.and_false, Bool.false_eq_true, if_false, scanStep, unquotedStep_extra prev rest hx]
  · obtain ⟨hle, hpl⟩ := hex c hx
    have hgt : ¬ c > 127 := by omega
    simp only [Bool.or_eq_false_iff] at hpl
    -- the unquoted step goes on without them and refuses with them: `c` is none of the bytes it looks for itself
    have h0 : unquotedStep [] prev c rest = .ok false := by
      simp only [unquotedStep, hpl.1.1, hpl.1.2, hpl.2, List.contains_nil, Bool.or_self, Bool.false_eq_true, if_false]
    have h1 : unquotedStep ex prev c rest = .error (-(E.LPART_SPECIAL : Int)) := by
      simp only [unquotedStep, hpl.1.1, hpl.1.2, hx, Bool.or_true, Bool.false_eq_true, if_false, if_true]
    cases q
    · cases k.ctlAll <;> cases h2 : isCntrl c <;> cases qp <;> simp [scanStep, hgt, h2, h0, h1]
    · simp [scanStep]

/-- **additional specials, exactly**: a decoder-driven scanner with them accepts iff it accepts without them and none of them
occurs outside quotes -/
theorem scan_extra_iff {ex : List Nat} (k : Scan) (hu : k.utf8 = true) (hf : k.fold = false) (hex : Extra ex)
    (prev : Option Nat) (q qp : Bool) (inp : List Nat) (hq : q = false → qp = false) :
    scan { k with extra := ex } prev q qp inp = 0 ↔
      scan { k with extra := [] } prev q qp inp = 0 ∧ outsideHit ex q qp inp = false := by
  refine scan_ind (k := { k with extra := [] })
    (P := fun prev q qp inp r => (q = false → qp = false) →
      (scan { k with extra := ex } prev q qp inp = 0 ↔ r = 0 ∧ outsideHit ex q qp inp = false)) ?_ ?_ ?_ ?_ prev q qp inp hq
  · intro prev q qp inp hc _
    have : inp = [] := decodeNext_fin (by simpa [nextCh, hu] using hc)
    subst this
    rw [scan_eq, show nextCh _ [] = .fin from hc]
    simp [outsideHit]
  · intro prev q qp inp hc _
    rw [scan_eq, show nextCh _ inp = .err from hc]
    simp
  · intro prev q qp inp c rest r hc hs _
    rw [scan_eq, show nextCh _ inp = .ch c rest from hc]; dsimp only
    rw [scanStep_extra k hex, hs]
    have hr : r ≠ 0 := by
      have := scanStep_all { k with extra := [] } prev inp.head? q qp c rest
      rw [hs, Act.all_ret] at this
      omega
    simp only [ite_self, Act.run_ret, hr, false_and]
  · intro prev q qp inp c rest p q' qp' n r hc hs ih hq
    rw [scan_eq, show nextCh _ inp = .ch c rest from hc]; dsimp only
    rw [scanStep_extra k hex, hs]
    have hdec : decodeNext inp = .ch c rest := by simpa [nextCh, hu] using hc
    obtain ⟨_, hinp⟩ := decodeNext_sound hdec
    by_cases hit : (!q && ex.contains c) = true
    · -- one of them outside quotes: refused, and a hit
      have hq0 : q = false := by cases q <;> simp_all
      have hx : ex.contains c = true := by cases q <;> simp_all
      obtain ⟨hle, hpl⟩ := hex c hx
      simp only [Bool.or_eq_false_iff] at hpl
      have hout : outsideHit ex q qp inp = true := by
        rw [hinp, utf8Enc_ascii (by omega), List.singleton_append, outsideHit_cons _ _ _ _ _ hq, hq0, hx, hpl.1.1]; rfl
      rw [if_pos hit, hout, Act.run_ret]
      simp
    · rw [if_neg hit, Act.run_go]
      by_cases hle : c ≤ 127
      · obtain ⟨hst, hn⟩ := scanStep_go_quote (k := { k with extra := [] }) hf hle hq hs
        subst hn
        have hout : outsideHit ex q qp inp = outsideHit ex q' qp' rest := by
          have hnohit : (!q && !(c == 34) && ex.contains c) = false := by
            cases q <;> cases hx : ex.contains c <;> simp_all
          rw [hinp, utf8Enc_ascii (by omega), List.singleton_append, outsideHit_cons _ _ _ _ _ hq, hnohit, Bool.false_or, ← hst]
        rw [hout]
        have hinv := quoteNext_inv c hq
        rw [← hst] at hinv
        exact ih hinv
      · have hgt : c > 127 := by omega
        simp only [scanStep, hgt, if_true, hu, Bool.not_true, Bool.false_or] at hs
        cases qp
        · cases hs
          rw [show outsideHit ex q false inp = outsideHit ex q false rest by
            rw [hinp, outsideHit_high hex q _ rest (utf8Enc_high hgt)]]
          exact ih hq
        · cases hs

/-- **RFC6531_FOLLOW_RFC20, exactly**: with the option a local part is accepted in mode 6531 iff it is accepted
without it and none of `# ^ ` { | } ~` occurs outside quotes -/
theorem rfc20_exact (r5322 : Bool) (s : List Nat) :
    is6531Local { rfc20 := true, rfc5322 := r5322 } s = 0 ↔
      (is6531Local { rfc20 := false, rfc5322 := r5322 } s = 0 ∧ outsideHit rfc20set false false s = false) := by
  have hex : Extra rfc20set := by
    intro c h
    simp only [rfc20set, List.contains_cons, List.contains_nil, Bool.or_false, Bool.or_eq_true, beq_iff_eq] at h
    rcases h with rfl | rfl | rfl | rfl | rfl | rfl | rfl <;> decide
  rw [is6531Local_eq, is6531Local_eq]
  split
  · simp
  · exact scan_extra_iff (.m6531 { rfc5322 := r5322 }) rfl rfl hex none false false s fun _ => rfl

example : outsideHit rfc20set false false [97, 35, 98] = true := by decide            -- a#b
example : outsideHit rfc20set false false [34, 97, 35, 98, 34] = false := by decide   -- "a#b"
example : outsideHit rfc20set false false [34, 92, 34, 35, 34] = false := by decide   -- "\"#"  (escaped quote does not close)

/-- the default build has all three options off, and `ON` is what switches each one on -/
theorem defaults_off : Gen.buildOpts.all (fun o => o.2.1 == "OFF" && o.2.2.1 == "ON" && o.2.2.2 == o.1) = true := by decide

end Eav.Props.C17
