import Eav.Props.C09Api
import Eav.Props.C04
import Eav.Lemmas.Email
/-!
# C09 at the level of `is_{822,5321,5322}_email`: class *special* in the result record

Whatever the local part is — any bytes, quoted or not — the record carries class 8 only when the domain part is a valid host name
that `check_tld` classified as special, hence (C09Api) only for the reserved names; with TLD checking off it never carries a class.
-/
namespace Eav.Props.C09
open Eav Eav.Spec

/-- **class 8 in the record of an ASCII-mode call comes from `check_tld` on the domain part**, never from the local part, the
literal branch or a syntax error: the address is `l@d` split at the last '@', `d` passed the host-name test, and `check_tld d` said 8 -/
theorem email_special_sound (b : Build) (conv : List Nat → Conv) (m : Mode) (email : List Nat) (tld : Bool) (r : Result)
    (hm : m ≠ .m6531) (h : isEmail b conv m email tld = .ok r) (h8 : r.rc = (T.SPECIAL : Int)) :
    ∃ l d, splitLast 64 email = some (l, d) ∧ isAsciiDomain b.underscore d [0] = .ok 0 ∧ checkTld d tld = .ok (T.SPECIAL : Int) := by
  rcases isEmail_record h with ⟨e, irc, he, rfl⟩ | ⟨L, D, hs, hD, _, _, _, ⟨_, rc, irc, rfl, hh⟩ | ⟨_, v4, v6, lit, _, rfl⟩⟩
  · rw [show e = _ from h8] at he; exact absurd he (by decide)
  · rcases hh with ⟨_, _, hd, ht⟩ | ⟨hm', _⟩
    · exact ⟨L, D, hs ▸ splitLast_append 64 D hD L, hd, ht.trans (congrArg _ h8)⟩
    · exact absurd hm' hm
  · exact absurd (show (0 : Int) = 8 from h8) (by decide)

/-- **no other domain is classified special**: in the ASCII modes a record with class 8 means the domain (after the last '@') is a
valid host name reserved by RFC 2606 / 6761 / 7686 — for every local part -/
theorem email_special_only_reserved (b : Build) (conv : List Nat → Conv) (m : Mode) (email : List Nat) (tld : Bool) (r : Result)
    (hm : m ≠ .m6531) (h : isEmail b conv m email tld = .ok r) (h8 : r.rc = (T.SPECIAL : Int)) (hnf : NulFree email) :
    ∃ l d, email = l ++ 64 :: d ∧ 64 ∉ d ∧ HostOk b.underscore d ∧ (d.getLast? ≠ some 46 → reserved d = true) ∧ tld = true := by
  obtain ⟨l, d, hsp, hhost, hct⟩ := email_special_sound b conv m email tld r hm h h8
  have hs := (splitLast_eq_some_iff 64 email l d).mp hsp
  have hnfd : NulFree d := by
    intro x hx
    exact hnf x (by rw [hs.1]; simp [hx])
  have hok : HostOk b.underscore d := (C04.host_iff b.underscore d hnfd).mp hhost
  have htld : tld = true := by
    cases tld with
    | true => rfl
    | false => rw [tld_off_no_class] at hct; exact absurd (Except.ok.inj hct) (by decide)
  subst htld
  exact ⟨l, d, hs.1, hs.2, hok, fun hnr => (special_class_iff_reserved b.underscore d hok hnr).mp hct, rfl⟩

/-- non-vacuity: `"a\nb"@x.test` (822: bare LF inside quotes is legal) is special; the same local part at `b.com` is generic -/
example : (isEmail {} (fun _ => { rc := 0, out := none }) .m822 ([34, 97, 10, 98, 34, 64] ++ [120, 46, 116, 101, 115, 116]) true).map (·.rc) = .ok 8 ∧
          (isEmail {} (fun _ => { rc := 0, out := none }) .m822 ([34, 97, 10, 98, 34, 64] ++ [98, 46, 99, 111, 109]) true).map (·.rc) = .ok 3 := by
  -- re-associated first (see the note at the head of C11)
  unfold isEmail hostPart checkTld isTld Gen.tldTable; simp only [↓List.append_assoc]; decide +kernel

end Eav.Props.C09
