import Eav.Cost
import Eav.Gen.TldTable
import Eav.Lemmas.Split
/-!
# C06, "returns after work linear in the input": the functions that scan inside a scan

`Eav/Cost.lean` pairs the model of `is_ipv4` / `is_ipv6` with a count of the bytes they examine (their own loop, the `strspn`
look-aheads, the nested `is_ipv4` call) and counts, along the model's own path, what `is_special_domain` and `is_tld` examine.
Here: the first component of each twin IS the model function (so the count follows the same control flow), and the count is bounded by
a linear function of the input length — for `is_tld` by a constant, the weight of the regenerated table.

The single-pass loops (`is_ascii_domain`, the four local-part scanners, the decoder) are structural recursions that consume at least
one byte per step and look at most two bytes ahead: they are linear by construction and get no twin.

What this does not show: that the compiled code does the same amount of work as the model counts.  That tie is measured — C06 runs the
direct-call families under callgrind and checks instructions ≤ 150·ticks + 50 000 against the ticks the compiled driver reports (ops
`c4`, `c6`, `cS`, `cT`), besides the doubling test.
-/
namespace Eav.Props.C06.Cost
open Eav

theorem zeroDotSpan_le (w : List Nat) : zeroDotSpan w ≤ w.length := by
  fun_induction zeroDotSpan w <;> simp only [List.length_cons, List.length_nil] <;> omega

/-- the `strspn` look-ahead can still happen only before the first dot has been passed -/
def pot (w : Nat) (ib : Bool) (bc : Nat) : Nat := if bc = 0 ∨ (bc = 1 ∧ ib = true) then w else 0

theorem pot_digit (w : Nat) (ib : Bool) (bc : Nat) : pot w true (if ib = true then bc else bc + 1) ≤ pot w ib bc := by
  cases ib <;> simp [pot]

theorem pot_dot (w : Nat) (ib : Bool) (bc : Nat) : pot w false bc ≤ pot w ib bc := by
  unfold pot
  by_cases h0 : bc = 0 <;> simp [h0]

/-- the `strspn` branch: the first octet has just been closed by its dot -/
theorem pot_first {w : Nat} {ib : Bool} {bv bc : Nat} {cs : List Nat}
    (h1 : ¬(!ib || cs.isEmpty || cs.head? == some 0) = true) (h2 : (bc == 1 && bv == 0) = true) :
    pot w ib bc = w ∧ pot w false bc = 0 := by
  cases ib <;> simp_all [pot]

/-- the twin follows the model's control flow, and each iteration is paid for by the byte it consumes; the one
`strspn` over `whole` by `pot` -/
theorem ipv4LoopT_spec (whole cs : List Nat) (ib : Bool) (bv bc : Nat) :
    (ipv4LoopT whole cs ib bv bc).1 = ipv4Loop whole cs ib bv bc ∧
    (ipv4LoopT whole cs ib bv bc).2 ≤ cs.length + 1 + pot whole.length ib bc := by
  have hs := zeroDotSpan_le whole
  fun_induction ipv4LoopT whole cs ib bv bc
  all_goals rw [ipv4Loop]
  all_goals simp +zetaDelta only [*, if_true, if_false, Bool.false_eq_true, List.length_cons, bind, Except.bind, true_and]
  -- left: the tick bounds; `case4` a digit, `case6`–`case8` the dot that ends a first octet of value 0
  -- (`strspn` faults / finds a byte / finds NUL), `case9` any other dot
  case case4 ib _ bc _ _ _ _ _ _ ih =>
    have := pot_digit whole.length ib bc
    simp +zetaDelta only at ih                  -- `ih` speaks of the `let bv' := ..; let bc' := ..` of the definition
    omega
  case case6 h1 h2 _ _ => have := pot_first (w := whole.length) h1 h2; omega
  case case7 h1 h2 _ _ _ => have := pot_first (w := whole.length) h1 h2; omega
  case case8 h1 h2 _ _ _ _ ih => have := pot_first (w := whole.length) h1 h2; omega
  case case9 ib _ bc _ _ _ _ _ _ ih => have := pot_dot whole.length ib bc; omega
  all_goals omega

/-- **`is_ipv4`: the twin's result is the model's, and it examines at most `2·|s| + |after| + 1` bytes** -/
theorem isIpv4_linear (s after : List Nat) :
    (isIpv4T s after).1 = isIpv4 s after ∧ (isIpv4T s after).2 ≤ 2 * s.length + after.length + 1 := by
  refine ⟨(ipv4LoopT_spec ..).1, ?_⟩
  have := (ipv4LoopT_spec (s ++ after) s false 0 0).2
  unfold isIpv4T
  simp [pot] at this ⊢
  omega

theorem spanHex_lt : ∀ (l : List Nat) (n : Nat), spanHex l = some n → n < l.length
  | c :: cs, n, h => by
    unfold spanHex at h
    split at h
    · obtain ⟨m, hm, rfl⟩ := Option.map_eq_some_iff.mp h
      have := spanHex_lt cs m hm
      simp; omega
    · cases h; simp

/-- as `ipv4LoopT_spec`; a hex group of `n ≤ 4` bytes costs its `strspn` (`n + 1`) and `n` iterations, the dotted tail
one `is_ipv4` over `run ++ cs` -/
theorem ipv6LoopT_spec (cs after : List Nat) (f nf : Nat) (run : List Nat) (skip : Nat) :
    (ipv6LoopT cs after f nf run skip).1 = ipv6Loop cs after f nf run skip ∧
    (ipv6LoopT cs after f nf run skip).2 ≤ 16 * cs.length + 2 * run.length + 2 * after.length + 4 := by
  fun_induction ipv6LoopT cs after f nf run skip
  all_goals rw [ipv6Loop]
  -- rewrite `cp[1]` in the hypothesis on `(peek cs after).map isAlnum` first, or it no longer matches the model's term
  all_goals try simp only [‹peek _ _ = _›] at *
  all_goals try have hlt := spanHex_lt _ _ ‹spanHex _ = some _›
  all_goals simp +zetaDelta only [*, hexSpanCost, if_true, if_false, Bool.false_eq_true, true_and]
  case case6 =>                                   -- `.`: the nested `is_ipv4`
    refine ⟨(ipv4LoopT_spec ..).1, Nat.le_trans (Nat.succ_le_succ (ipv4LoopT_spec ..).2) ?_⟩
    simp [pot]; omega
  all_goals simp +zetaDelta only [List.length_cons, List.length_append, List.length_take, List.length_nil] at *
  all_goals omega

/-- **`is_ipv6`: the twin's result is the model's, and it examines at most `16·|s| + 2·|after| + 4` bytes** -/
theorem isIpv6_linear (s after : List Nat) :
    (isIpv6T s after).1 = isIpv6 s after ∧ (isIpv6T s after).2 ≤ 16 * s.length + 2 * after.length + 4 :=
  ⟨(ipv6LoopT_spec ..).1, by simpa [isIpv6T] using (ipv6LoopT_spec s after 0 0 [] 0).2⟩

theorem cmpTicks_le (a b : List Nat) (n : Nat) : cmpTicks a b n ≤ n := by
  fun_induction cmpTicks a b n <;> omega

/-- **`is_tld` costs at most the table's weight, whatever the label** (the compare length is the row's, never the label's) -/
theorem tldTicks_le (s : List Nat) : ∀ (table : List (List Nat × Nat × Nat)), tldTicks table s ≤ tableWeight table
  | [] => by simp [tldTicks, tableWeight]
  | (name, len, t) :: rows => by
    unfold tldTicks tableWeight
    have h1 := cmpTicks_le name s len
    have h2 := tldTicks_le s rows
    split <;> omega

theorem afterDot_length (cp rest : List Nat) (h : afterDot cp = some rest) : rest.length < cp.length := by
  have := congrArg List.length (eq_of_afterDot_some h)
  simp at this; omega

theorem skipLabels_length : ∀ (n : Nat) (cp r : List Nat), skipLabels n cp = some r → r.length ≤ cp.length
  | 0, cp, r, h | 1, cp, r, h => by cases h; exact Nat.le_refl _
  | n + 2, cp, r, h => by
    rw [skipLabels_succ (n + 1) cp (Nat.le_add_left 2 n)] at h
    obtain ⟨x, ha, hx⟩ := Option.bind_eq_some_iff.mp h
    have h1 := afterDot_length cp x ha
    have h2 := skipLabels_length (n + 1) x r hx
    omega

theorem upToDot_length (l : List Nat) : (upToDot l).length ≤ l.length := by
  have := congrArg List.length (take_upToDot l)
  simp at this; omega

/-- **`is_special_domain` examines at most `4·|s| + 150` bytes** -/
theorem specialTicks_linear (s : List Nat) : specialTicks s ≤ 4 * s.length + 150 := by
  unfold specialTicks
  split
  · omega
  · cases hsk : skipLabels (if s.getLast? == some 46 then countDots s - 1 else countDots s) s with
    | none => simp only; omega
    | some cp =>
      simp only
      have h1 := skipLabels_length _ s cp hsk
      cases had : afterDot cp with
      | none => simp only; omega
      | some rest =>
        simp only
        have h2 := afterDot_length cp rest had
        have h3 := upToDot_length rest
        split <;> omega

theorem tableWeight_append : ∀ (a b : List (List Nat × Nat × Nat)), tableWeight (a ++ b) = tableWeight a + tableWeight b
  | [], b => by simp [tableWeight]
  | (_, len, _) :: rows, b => by simp [tableWeight, tableWeight_append rows b, Nat.add_assoc]

/-- the weight of the table compiled into the library on this run -/
theorem table_weight : tableWeight Gen.tldTable ≤ 20000 := by
  -- chunk by chunk: evaluated as it stands, every row would be handed through the forty `++` of `Gen.tldTable`
  unfold Gen.tldTable
  simp only [tableWeight_append]
  decide +kernel

/-- **`is_tld` examines a bounded number of bytes, whatever the label's length** -/
theorem isTld_const (s : List Nat) : tldTicks Gen.tldTable s ≤ 20000 :=
  Nat.le_trans (tldTicks_le s Gen.tldTable) table_weight

/-- non-vacuity: on `0.0.0. … .0` (the shape on which a per-dot look-ahead would be quadratic) the count is what the bound says -/
example : (isIpv4T (List.replicate 50 [48, 46]).flatten [48, 0]).2 ≤ 2 * 100 + 2 + 1 ∧
          (isIpv4T [48, 46, 48, 46, 48, 46, 48] [0]).1 = .ok true ∧ (isIpv4T [48, 46, 48, 46, 48, 46, 48] [0]).2 = 16 := by decide +kernel

end Eav.Props.C06.Cost
