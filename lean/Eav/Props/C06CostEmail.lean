import Eav.CostEmail
import Eav.Props.C06Cost
/-!
# C06 (work): one `is_*_email` call examines a number of bytes that is linear in the length of the address

`emailTicks` (`Eav/CostEmail.lean`) composes the counters of every function on the path of `is_*_email`, along
the path the model takes.  Each part is bounded once (`isAsciiDomainT_le`, `checkTldTicks_le`, `checkIpTicks_le`,
`hostTicks_le`) and `emailTicks_linear` adds the bounds up.  No term is quadratic: the scans inside scans (`strspn`,
`strchr`, `strncasecmp`) were bounded separately (`isIpv4_linear`, `isIpv6_linear`, `specialTicks_linear`,
`tldTicks_le`); the constant is the weight of the TLD table (≤ 20 000, `table_weight`, re-evaluated on the
regenerated table) plus the bounded local part and the fixed comparisons.

That the compiled code does not do more work than these counters allow is measured (callgrind, `./check C06`),
not proved.
-/
namespace Eav.Props.C06.Cost
open Eav

/-- the twin follows the model's control flow; an iteration costs one tick, two when it looks behind a hyphen -/
theorem domLoopT_spec (us : Bool) (cs after : List Nat) (ll : Nat) (nn : Bool) :
    (domLoopT us cs after ll nn).1 = domLoop us cs after ll nn ∧ (domLoopT us cs after ll nn).2 ≤ 2 * cs.length + 1 := by
  fun_induction domLoopT us cs after ll nn
  all_goals rw [domLoop]
  all_goals simp +zetaDelta only [*, if_true, if_false, Bool.false_eq_true, List.length_cons, bind, Except.bind, true_and]
  all_goals omega

theorem isAsciiDomainT_fst (us : Bool) (s after : List Nat) : (isAsciiDomainT us s after).1 = isAsciiDomain us s after := by
  unfold isAsciiDomain
  fun_cases isAsciiDomainT us s after <;> simp +zetaDelta only [*, if_true, if_false, Bool.false_eq_true, domLoopT_spec]

theorem isAsciiDomainT_le (us : Bool) (s after : List Nat) : (isAsciiDomainT us s after).2 ≤ 2 * s.length + 3 := by
  have h1 := (domLoopT_spec us s.dropLast (46 :: after) 0 false).2
  have h2 := (domLoopT_spec us s after 0 false).2
  rw [List.length_dropLast] at h1
  fun_cases isAsciiDomainT us s after <;> simp +zetaDelta only <;> omega

theorem splitLast_length (c : Nat) (s l d : List Nat) (h : splitLast c s = some (l, d)) : l.length + d.length + 1 = s.length := by
  have := ((splitLast_eq_some_iff c s l d).1 h).1
  rw [this]
  simp
  omega

theorem checkTldTicks_le (d : List Nat) (tld : Bool) : checkTldTicks d tld ≤ 5 * d.length + 20151 := by
  have hs := specialTicks_linear d
  fun_cases checkTldTicks d tld
  case case2 =>                                   -- not reserved: the `strrchr` for the last dot, then the table scan
    split
    · omega
    · rename_i last _
      have := isTld_const last
      omega
  all_goals omega

theorem checkIpTicks_le (d : List Nat) : checkIpTicks d ≤ 19 * d.length + 30 := by
  fun_cases checkIpTicks d
  case case4 _ pre post hsp _ _ =>                -- `[…]` closed at the very end: the tag comparison and one parser over the inside
    have hl := splitLast_length 93 d pre post hsp
    have h6a := (isIpv6_linear ((pre.drop 1).drop 5) [93, 0]).2
    have h6b := (isIpv6_linear (pre.drop 1) [93, 0]).2
    have h4 := (isIpv4_linear (pre.drop 1) [93, 0]).2
    simp +zetaDelta only [List.length_drop, List.length_cons, List.length_nil] at h6a h6b h4 ⊢
    split
    · omega
    · split <;> omega
  all_goals omega

theorem hostTicks_le (b : Build) (conv : List Nat → Conv) (m : Mode) (d : List Nat) (tld : Bool) :
    hostTicks b conv m d tld ≤ 8 * d.length + 8 * convLen conv d + 20160 := by
  have ascii : ∀ (x : List Nat),
      (isAsciiDomainT b.underscore x [0]).2 + (if isAsciiDomain b.underscore x [0] == .ok 0 then checkTldTicks x tld else 0)
        ≤ 7 * x.length + 20154 := by
    intro x
    have h1 := isAsciiDomainT_le b.underscore x [0]
    have h2 := checkTldTicks_le x tld
    split <;> omega
  fun_cases hostTicks b conv m d tld
  case case3 a ha =>                              -- mode 6531: the work is done on the converter's output `a`
    have := ascii a
    have hc : convLen conv d = a.length := by simp +zetaDelta only [convLen, ha]
    omega
  case case4 => have := ascii d; omega
  all_goals omega

/-- the converter's output for the domain part of the address (what the library goes on to scan in mode 6531) -/
def domainConvLen (conv : List Nat → Conv) (email : List Nat) : Nat :=
  match splitLast 64 email with
  | some (_, d) => convLen conv d
  | none => 0

/-- **linear work**: whatever the address, mode, build options, `tld_check` and converter, one `is_*_email` call examines at
most `20·|address| + 8·|converter output| + 21 000` bytes (the constant is dominated by the weight of the TLD table) -/
theorem emailTicks_linear (b : Build) (conv : List Nat → Conv) (m : Mode) (email : List Nat) (tld : Bool) :
    emailTicks b conv m email tld ≤ 20 * email.length + 8 * domainConvLen conv email + 21000 := by
  unfold emailTicks domainConvLen
  split
  · omega
  · cases hsp : splitLast 64 email with
    | none => simp only; omega
    | some p =>
      obtain ⟨l, d⟩ := p
      have hl := splitLast_length 64 email l d hsp
      simp only
      split
      · omega
      · split
        · omega
        · have hh := hostTicks_le b conv m d tld
          have hi := checkIpTicks_le d
          have hc : localCostMax = 264 := by decide
          split
          · omega
          · split <;> omega

/-- the counters do count: `a-b.c` costs the host-name loop one tick per octet, one more for the look-ahead behind the hyphen, one for the
end of the string and two for the length tests -/
example : (isAsciiDomainT false [97, 45, 98, 46, 99] [0]) = (.ok 0, 9) := by decide
/-- ... and a whole address on a listed TLD costs what the table scan up to its row costs, on top of the linear part -/
example : emailTicks {} (fun _ => ⟨0, none⟩) .m5321 [97, 64, 98, 46, 99] false = 6 + localCostMax + 6 + 1 := by decide

end Eav.Props.C06.Cost
