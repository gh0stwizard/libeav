import Eav.Model
import Eav.Lemmas.Ip6Upper
import Eav.Lemmas.Ip6Lower
import Eav.Lemmas.IpSpec
import Eav.Lemmas.Email
/-!
# C05 — address literals: only `[IPv4]` or `[IPv6:addr]`, nothing trailing, family reported

Grammar (`Eav/Spec/Ip.lean`): `v4` = four decimal octets `0..255` separated by single dots; `IsV6_4291` = RFC 4291
textual form (eight groups, or fewer with one `::`, optional dotted-quad tail); `IsV6_5321` = RFC 5321 §4.1.3
(`IPv6-full`, `IPv6-comp` ≤ 6 groups, `IPv6v4-full`, `IPv6v4-comp` ≤ 4 groups) with a dotted-quad tail of 1–3 digit
octets and non-zero first octet.

* `literal_upper`  : whatever `check_ip` accepts is exactly `[` addr `]` with addr an IPv4 dotted quad, an RFC 4291
                     address, or such an address behind a five-byte tag that is `IPv6:` in some letter case;
* `literal_lower`  : every `[d.d.d.d]` (1–3 digit octets ≤ 255, first not zero) and every `[IPv6:` RFC-5321 address `]`
                     is accepted;
* `literal_family` : the flags name the family of the address present;
* `literal_every_mode` : the four `is_*_email` functions share this code (`literalPart` has no mode parameter).
All for every NUL-free byte string — no bound on length, number of groups or digits.
-/
namespace Eav.Props.C05
open Eav Eav.Spec

/-- upper bound, as a grammar of whole domains -/
def IsLiteralUpper (d : List Nat) : Prop :=
  ∃ inner, d = 91 :: inner ++ [93] ∧
    (v4 inner = true ∨ IsV6_4291 inner ∨ ∃ tag a, inner = tag ++ a ∧ lowerAll tag = tagLower ∧ IsV6_4291 a)

def IsLiteralLower (d : List Nat) : Prop :=
  ∃ inner, d = 91 :: inner ++ [93] ∧ (quad5321 inner = true ∨ ∃ a, inner = tagRfc ++ a ∧ IsV6_5321 a)

theorem v4_length {t : List Nat} (h : v4 t = true) : 7 ≤ t.length := by
  have hl := splitOn_length 46 t
  simp only [v4, Bool.and_eq_true, List.all_eq_true, beq_iff_eq] at h
  obtain ⟨h4, hall⟩ := h
  match hs : splitOn 46 t, h4, hall with
  | [a, b, c, d], _, hall =>
    rw [hs] at hl
    have ne : ∀ w, w ∈ [a, b, c, d] → 1 ≤ w.length := by
      intro w hw
      have := hall w hw
      simp only [decOctet, Bool.and_eq_true] at this
      cases w with
      | nil => simp at this
      | cons => simp
    have ha := ne a (by simp); have hb := ne b (by simp); have hc := ne c (by simp); have hd := ne d (by simp)
    simp at hl; omega

theorem isV6_length {q : List Nat → Bool} {m : Nat} {a : List Nat} (h : IsV6 q m a) : 2 ≤ a.length := by
  rcases h with ht | ⟨l, r, _, _, rfl, _, _, _⟩
  · generalize hn : (8 : Nat) = n at ht
    cases ht with
    | one => omega
    | quad => omega
    | cons hg _ =>
      have hne := (h16_iff.mp hg).2.1
      have := List.length_pos_iff.mpr hne
      simp; omega
  · simp; omega

/-- a byte whose lower-case form is `i` is no digit -/
theorem not_digit_of_tag {c : Nat} (h : toLower c = toLower 73) : isDigit c = false := by
  have hc : toLower c = 105 := by rw [h]; decide
  cases hdg : isDigit c with
  | false => rfl
  | true =>
    simp only [isDigit, Bool.and_eq_true, decide_eq_true_eq] at hdg
    simp only [toLower, isUpper, Bool.and_eq_true, decide_eq_true_eq] at hc
    rw [if_neg (by omega)] at hc; omega

/-- a dotted quad begins with a digit or a dot, the tag with a letter: what `check_ip` takes for tagged is no dotted quad -/
theorem not_v4_of_tag {inner : List Nat} (htag : strncaseeq (inner ++ [93]) tagIPv6 5 = true) : v4 inner = false := by
  cases hv : v4 inner with
  | false => rfl
  | true =>
    cases inner with
    | nil => cases hv
    | cons c cs =>
      simp only [List.cons_append, strncaseeq, tagIPv6, Bool.and_eq_true, beq_iff_eq] at htag
      rcases v4_chars hv c (by simp) with hd | rfl
      · rw [not_digit_of_tag htag.1] at hd; cases hd
      · exact absurd htag.1 (by decide)

/-! ### the frame: what `check_ip` looks at -/

/-- the three address tests, on the bytes between the brackets: the verdict, and whether it was the IPv4 parser that gave it -/
def addrTest (inner : List Nat) : Except Fault Bool × Bool :=
  if strncaseeq (inner ++ [93]) tagIPv6 5 then (isIpv6 (inner.drop 5) lit, false)
  else if inner.contains 58 then (isIpv6 inner lit, false)
  else (isIpv4 inner lit, true)

/-- `check_ip` on a string that ends with `]` (the first byte is never looked at): too short, or the verdict of the address
test on the bytes between the brackets -/
theorem checkIp_frame (x : Nat) (inner : List Nat) :
    checkIp (x :: inner ++ [93]) =
      if inner.length < 7 then .ok (-(E.IPADDR_INVALID : Int), false, false, [])
      else ipVerdict (addrTest inner).1 (addrTest inner).2 (!(addrTest inner).2) inner := by
  unfold checkIp
  by_cases hlen : inner.length < 7
  · rw [if_pos hlen, if_pos (by simp; omega)]
  · rw [if_neg hlen, if_neg (by simp; omega), show splitLast 93 (x :: inner ++ [93]) = some (x :: inner, []) from
      splitLast_append 93 [] (by simp) (x :: inner)]
    simp only [List.isEmpty_nil, Bool.not_true, Bool.false_eq_true, if_false, List.cons_append, List.drop_succ_cons, List.drop_zero]
    fun_cases addrTest inner <;> simp only [*, if_true, if_false, Bool.false_eq_true, Bool.not_true, Bool.not_false]

theorem checkIp_accept {d : List Nat} (hh : d.head? = some 91) {v4f v6f : Bool} {l : List Nat}
    (h : checkIp d = .ok (0, v4f, v6f, l)) :
    ∃ inner, d = 91 :: inner ++ [93] ∧ 7 ≤ inner.length ∧ l = inner ∧ (addrTest inner).1 = .ok true ∧
      v4f = (addrTest inner).2 ∧ v6f = !(addrTest inner).2 := by
  obtain ⟨_, h8, hl, _⟩ := checkIp_ok_zero h
  -- `d` ends with `]` and, being longer than that, starts with the `[` of `hh`
  obtain ⟨pre, rfl⟩ := List.getLast?_eq_some_iff.mp hl
  obtain ⟨x, inner, rfl⟩ : ∃ x inner, pre = x :: inner := List.exists_cons_of_ne_nil (by rintro rfl; simp at h8)
  obtain rfl : x = 91 := by simpa using hh
  have h7 : 7 ≤ inner.length := by simp at h8; omega
  rw [checkIp_frame, if_neg (by omega)] at h
  rcases ipVerdict_ok_cases h with ⟨h1, _, h2, h3, h4⟩ | ⟨_, h0, _⟩
  · exact ⟨inner, rfl, h7, h4, h1, h2, h3⟩
  · exact absurd h0 (by decide)

theorem checkIp_of_test {inner : List Nat} (hlen : 7 ≤ inner.length) (h : (addrTest inner).1 = .ok true) :
    checkIp (91 :: inner ++ [93]) = .ok (0, (addrTest inner).2, !(addrTest inner).2, inner) := by
  rw [checkIp_frame, if_neg (by omega), h]; rfl

/-- **what the address test accepts, and which family it reports**: one case analysis for `literal_upper` and
`literal_family` -/
theorem addrTest_accept {inner : List Nat} (hn : NulFree inner) (hlen : 5 ≤ inner.length)
    (h : (addrTest inner).1 = .ok true) :
    (v4 inner = true ∨ IsV6_4291 inner ∨ ∃ tag a, inner = tag ++ a ∧ lowerAll tag = tagLower ∧ IsV6_4291 a) ∧
    (addrTest inner).2 = v4 inner := by
  revert h
  fun_cases addrTest inner with
  | case1 htag =>
    intro h
    refine ⟨.inr (.inr ⟨inner.take 5, inner.drop 5, (List.take_append_drop 5 inner).symm, ?_,
      isIpv6_upper _ (fun c hc => hn c (List.mem_of_mem_drop hc)) h⟩), (not_v4_of_tag htag).symm⟩
    have := strncaseeq_take 5 (inner ++ [93]) tagIPv6 htag (by simp; omega) (by decide)
    rw [List.take_append_of_le_length (by omega)] at this
    rw [this]; decide
  | case2 htag hc =>
    intro h
    refine ⟨.inr (.inl (isIpv6_upper _ hn h)), ?_⟩
    cases hv : v4 inner with
    | false => rfl
    | true => exact absurd (by simpa using hc) (v4_quadLike _ hv).2.1
  | case3 htag hc =>
    intro h
    rw [isIpv4_literal inner hn, Except.ok.injEq, Bool.and_eq_true] at h
    exact ⟨.inl h.1, h.1.symm⟩

/-- **upper bound.**  An accepted bracketed domain is exactly `[` addr `]` — nothing after the bracket — with addr a
dotted quad of octets `0..255`, an RFC 4291 address, or such an address behind a tag that is `IPv6:` in some letter
case.  No other tag, no other bytes. -/
theorem literal_upper (d : List Nat) (hn : NulFree d) (hh : d.head? = some 91) (v4f v6f : Bool) (l : List Nat)
    (h : checkIp d = .ok (0, v4f, v6f, l)) : IsLiteralUpper d := by
  obtain ⟨inner, rfl, hlen, _, ht, _, _⟩ := checkIp_accept hh h
  exact ⟨inner, rfl, (addrTest_accept (fun c hc => hn c (by simp [hc])) (by omega) ht).1⟩

/-- **lower bound.**  Every dotted quad of 1–3 digit octets ≤ 255 with non-zero first octet, and every `IPv6:`-tagged
RFC 5321 §4.1.3 literal (dotted-quad tail with non-zero first octet), between brackets, is accepted. -/
theorem literal_lower (d : List Nat) (hn : NulFree d) (h : IsLiteralLower d) :
    ∃ v4f v6f l, checkIp d = .ok (0, v4f, v6f, l) := by
  obtain ⟨inner, rfl, hcase⟩ := h
  have hni : NulFree inner := fun c hc => hn c (by simp [hc])
  rcases hcase with hq | ⟨a, rfl, ha⟩
  · simp only [quad5321, Bool.and_eq_true] at hq
    have hv4 := v4Snum_v4 hq.1
    have hlen := v4_length hv4
    refine ⟨_, _, _, checkIp_of_test hlen ?_⟩
    have htag : strncaseeq (inner ++ [93]) tagIPv6 5 = false :=
      Bool.eq_false_iff.mpr fun ht => by rw [not_v4_of_tag ht] at hv4; cases hv4
    have hcol : inner.contains 58 = false := by simpa using (v4_quadLike _ hv4).2.1
    unfold addrTest
    simp only [htag, hcol, Bool.false_eq_true, if_false]
    rw [isIpv4_literal _ hni, hv4, hq.2]; rfl
  · have hlen : 7 ≤ (tagRfc ++ a).length := by
      have := isV6_length ha; simp [tagRfc]; omega
    refine ⟨_, _, _, checkIp_of_test hlen ?_⟩
    have htag : strncaseeq (tagRfc ++ a ++ [93]) tagIPv6 5 = true := by
      simp [strncaseeq, tagRfc, tagIPv6]
    unfold addrTest
    simp only [htag, if_true]
    have : (tagRfc ++ a).drop 5 = a := List.drop_left (l₁ := tagRfc)
    rw [this]
    exact isIpv6_lower a (fun c hc => hni c (by simp [hc])) ha

/-- **family.**  `is_ipv4` is set exactly when the bytes between the brackets are a dotted quad, `is_ipv6` exactly
otherwise; the literal reported (`EAV_EXTRA`) is the bytes between the brackets. -/
theorem literal_family (d : List Nat) (hn : NulFree d) (hh : d.head? = some 91) (v4f v6f : Bool) (l : List Nat)
    (h : checkIp d = .ok (0, v4f, v6f, l)) :
    ∃ inner, d = 91 :: inner ++ [93] ∧ l = inner ∧ v4f = v4 inner ∧ v6f = !v4 inner := by
  obtain ⟨inner, rfl, hlen, hl, ht, h4, h6⟩ := checkIp_accept hh h
  have hs := (addrTest_accept (fun c hc => hn c (by simp [hc])) (by omega) ht).2
  exact ⟨inner, rfl, hl, by rw [h4, hs], by rw [h6, hs]⟩

/-- **every mode.**  Once the local part has passed, a bracketed domain is judged by the same code in all four
modes, and an accepted literal yields return code 0 with the flags of `check_ip`. -/
theorem literal_every_mode (b : Build) (conv : List Nat → Conv) (m : Mode) (email l d : List Nat) (tld : Bool)
    (hs : splitLast 64 email = some (l, d)) (hh : d.head? = some 91) (hl : l.length ≤ Lim.VALID_LPART_LEN)
    (hloc : localOf b m l = 0) : isEmail b conv m email tld = literalPart b l d := by
  obtain ⟨rfl, hD⟩ := (Eav.splitLast_eq_some_iff 64 email l d).1 hs
  have hd : d ≠ [] := fun e => by simp [e] at hh
  rw [isEmail_at b conv m tld l hD, if_neg hd, if_neg (Nat.not_lt.mpr hl), if_neg (not_not_intro hloc), if_neg (not_not_intro hh)]

theorem literal_accepted_record (b : Build) (l d : List Nat) (v4f v6f : Bool) (lit' : List Nat)
    (h : checkIp d = .ok (0, v4f, v6f, lit')) :
    literalPart b l d = .ok (okResult b 0 0 v4f v6f false l lit') :=
  literalPart_of_checkIp b l h

/-! ### the executable forms evaluated by the S stream (`sI` op) are these grammars -/

theorem literal_frame (d : List Nat) (f : List Nat → Bool) :
    (match d with
      | 91 :: rest => if rest.getLast? != some 93 then false else f rest.dropLast
      | _ => false) = true ↔ ∃ inner, d = 91 :: inner ++ [93] ∧ f inner = true := by
  constructor
  · intro h
    split at h
    · next rest =>
      by_cases hl : rest.getLast? = some 93
      · rw [if_neg (by simp [hl])] at h
        exact ⟨rest.dropLast, by rw [List.cons_append, dropLast_append_of_getLast? rest 93 hl], h⟩
      · rw [if_pos (by simpa using hl)] at h; cases h
    · cases h
  · rintro ⟨inner, rfl, hf⟩
    simp [hf]

/-- a test of the first five bytes and of the rest, said with `take`/`drop` and with a decomposition -/
theorem take5_iff {P Q : List Nat → Prop} (hP : ∀ t, P t → t.length = 5) (inner : List Nat) :
    P (inner.take 5) ∧ Q (inner.drop 5) ↔ ∃ tag a, inner = tag ++ a ∧ P tag ∧ Q a := by
  constructor
  · exact fun h => ⟨_, _, (List.take_append_drop 5 inner).symm, h⟩
  · rintro ⟨tag, a, rfl, ht, ha⟩
    rw [← hP tag ht, List.take_left, List.drop_left]
    exact ⟨ht, ha⟩

theorem literalUpper_iff (d : List Nat) : literalUpper d = true ↔ IsLiteralUpper d := by
  unfold literalUpper IsLiteralUpper
  refine (literal_frame d (fun inner => v4 inner || v6_4291 inner || (lowerAll (inner.take 5) == tagLower && v6_4291 (inner.drop 5)))).trans
    (exists_congr fun inner => and_congr_right fun _ => ?_)
  simp only [Bool.or_eq_true, Bool.and_eq_true, beq_iff_eq, v6_4291_iff, or_assoc]
  exact or_congr_right (or_congr_right (take5_iff (P := fun t => lowerAll t = tagLower)
    (fun t ht => by simpa [tagLower] using congrArg List.length ht) inner))

theorem literalLower_iff (d : List Nat) : literalLower d = true ↔ IsLiteralLower d := by
  unfold literalLower IsLiteralLower
  refine (literal_frame d (fun inner => (v4Snum inner && firstOctetNonZero inner) || (inner.take 5 == tagRfc && v6_5321 (inner.drop 5)))).trans
    (exists_congr fun inner => and_congr_right fun _ => ?_)
  simp only [Bool.or_eq_true, Bool.and_eq_true, beq_iff_eq, v6_5321_iff, quad5321]
  refine or_congr_right ((take5_iff (P := (· = tagRfc)) (fun t ht => by rw [ht]; rfl) inner).trans ?_)
  exact ⟨fun ⟨_, a, e, ht, ha⟩ => ⟨a, ht ▸ e, ha⟩, fun ⟨a, e, ha⟩ => ⟨_, a, e, rfl, ha⟩⟩

/-- `literalIsV4` (the family the S stream expects) is `v4` of the bytes between the brackets -/
theorem literalIsV4_eq (inner : List Nat) : literalIsV4 (91 :: inner ++ [93]) = v4 inner := by
  simp [literalIsV4]

/-- the three theorems once more, against the executable forms -/
theorem literal_sandwich (d : List Nat) (hn : NulFree d) (hh : d.head? = some 91) :
    (∀ v4f v6f l, checkIp d = .ok (0, v4f, v6f, l) → literalUpper d = true ∧ v4f = literalIsV4 d ∧ v6f = !literalIsV4 d) ∧
    (literalLower d = true → ∃ v4f v6f l, checkIp d = .ok (0, v4f, v6f, l)) := by
  refine ⟨fun v4f v6f l h => ?_, fun h => literal_lower d hn ((literalLower_iff d).mp h)⟩
  refine ⟨(literalUpper_iff d).mpr (literal_upper d hn hh v4f v6f l h), ?_⟩
  obtain ⟨inner, hd, _, h4, h6⟩ := literal_family d hn hh v4f v6f l h
  rw [hd, literalIsV4_eq]; exact ⟨h4, h6⟩

/-- **at the level of `is_*_email`**: an accepted address whose domain starts with `[` has a domain of exactly the
form `[` addr `]`, in the upper-bound grammar, and the record says `is_ipv4` iff addr is a dotted quad, `is_ipv6`
otherwise, never `is_domain` -/
theorem email_literal (b : Build) (conv : List Nat → Conv) (m : Mode) (email l d : List Nat) (tld : Bool)
    (hs : splitLast 64 email = some (l, d)) (hh : d.head? = some 91) (hn : NulFree d)
    (r : Result) (h : isEmail b conv m email tld = .ok r) (hr : r.rc = 0) :
    IsLiteralUpper d ∧ ∃ inner, d = 91 :: inner ++ [93] ∧ r.isIpv4 = v4 inner ∧ r.isIpv6 = (!v4 inner) ∧ r.isDomain = false := by
  -- a record with code 0 behind `[` is the literal branch's
  obtain ⟨rfl, hD⟩ := (Eav.splitLast_eq_some_iff 64 email l d).1 hs
  rcases isEmail_record h with ⟨e, _, he, rfl⟩ | ⟨L, D, e, hD', _, _, _, ⟨hb, _⟩ | ⟨_, v4f, v6f, lit', hc, rfl⟩⟩
  · exact absurd hr (by simp only; omega)
  · rw [(last_split_unique e hD hD').2] at hh; exact absurd hh hb
  · rw [← (last_split_unique e hD hD').2] at hc
    refine ⟨literal_upper d hn hh v4f v6f lit' hc, ?_⟩
    obtain ⟨inner, hd', _, h4, h6⟩ := literal_family d hn hh v4f v6f lit' hc
    exact ⟨inner, hd', h4, h6, rfl⟩

/-! ### the hypotheses are satisfiable, and the bounds are not vacuous -/
example : IsLiteralLower [91, 49, 46, 50, 46, 51, 46, 52, 93] :=              -- [1.2.3.4]
  ⟨[49, 46, 50, 46, 51, 46, 52], rfl, Or.inl (by decide)⟩
example : IsLiteralLower ([91] ++ tagRfc ++ [58, 58, 49] ++ [93]) :=          -- [IPv6:::1]
  ⟨tagRfc ++ [58, 58, 49], rfl, Or.inr ⟨[58, 58, 49], rfl,
    Or.inr ⟨[], [49], 0, 1, rfl, Or.inl ⟨rfl, rfl⟩, Or.inr (IsTail.one (by decide)), by omega⟩⟩⟩
example : checkIp [91, 49, 46, 50, 46, 51, 46, 52, 93] = .ok (0, true, false, [49, 46, 50, 46, 51, 46, 52]) := by decide
-- rejected although inside the upper bound (first octet zero): the two bounds are different sets
example : checkIp [91, 48, 46, 50, 46, 51, 46, 52, 93] = .ok (-24, false, false, []) := by decide

end Eav.Props.C05
