import Eav.CliMain
import Eav.Props.C06
import Eav.Props.C20
/-!
# C20 at the level of `main`: what the `eav` tool prints is, line by line, the library's own decision

`Eav/CliMain.lean` models `main` and `parse_file` on top of the API model (`Eav/Api.lean`): one `eav_t`,
initialised and set up once, used for every line of every file.  Here it is proved that this history is
unobservable:

* `cliMain_ok` — for every list of files (arbitrary bytes, unreadable files included) and every IDN library
  honouring its contract the tool returns normally with exit code 0: no NULL message is printed, no
  `abort ()`, no read of an uninitialised field, no free of a dead block; and every allocation has been
  released when it returns (`Released`);
* `cliMain_files` — the output for each file equals `specFile`: for every `getline` record that is not a
  comment, in input order, exactly one block `PASS: <echo>` or `FAIL: <echo>` + message, where the verdict and
  the message are those of `C13.outcomeOf` — the decision of the library for that line alone under the
  default settings (mode 6531, TLD checking on, default `allow_tld`) — whatever lines and files came before.
-/
namespace Eav.Props.C20
open Eav

/-- what `eav_errstr` answers for an object with this `errcode` / `idnmsg` -/
def msgOf (ec : Nat) (im : Option Int) : Msg :=
  if ec == E.IDN_ERROR then (match im with | some rc => .idn rc | none => .null) else .table ec

/-- the tool's object while it reads files: mode 6531 selected, default settings -/
def ToolObj (e : EavT) : Prop :=
  C01.modeOfObj e = some .m6531 ∧ e.tldCheck = true ∧ e.allowTld = defaultMask

/-- **specification of one output block**: the decision of the library for this line alone (a function of the
line and of the IDN library's answer for it), rendered -/
def specBlock (b : Build) (t : Texts) (convOf : List Nat → Conv) (a : List Nat) : Except Fault (List Nat × Bool) :=
  match C13.outcomeOf b (convOf a) .m6531 true defaultMask a with
  | .error f => .error f
  | .ok (ret, ec, im, _) =>
    match lineBlock t a ret (msgOf ec im) with
    | .error f => .error f
    | .ok blk => .ok (blk, ret != 0)

def specLines (b : Build) (t : Texts) (convOf : List Nat → Conv) : List (List Nat) → CliOut → Except Fault CliOut
  | [], o => .ok o
  | a :: rest, o =>
    match specBlock b t convOf a with
    | .error f => .error f
    | .ok (blk, pass) =>
      specLines b t convOf rest
        { stdout := o.stdout ++ blk, passed := o.passed + (if pass then 1 else 0), failed := o.failed + (if pass then 0 else 1) }

def specFile (b : Build) (t : Texts) (convOf : List Nat → Conv) : Option (List Nat) → Except Fault CliOut
  | none => .ok {}
  | some file => specLines b t convOf (cliLines file) {}

/-- the files one after the other, each on its own -/
def specFiles (b : Build) (t : Texts) (convOf : List Nat → Conv) : List (Option (List Nat)) → Except Fault (List CliOut)
  | [] => .ok []
  | f :: fs =>
    match specFile b t convOf f with
    | .error e => .error e
    | .ok o =>
      match specFiles b t convOf fs with
      | .error e => .error e
      | .ok os => .ok (o :: os)

/-- `msgOf` is what `C13.errstr_latest` gives -/
theorem msgOf_eq (ec : Nat) (im : Option Int) :
    msgOf ec im = if ec = E.IDN_ERROR then (match im with | some rc => .idn rc | none => .null) else .table ec := by
  unfold msgOf
  by_cases h : ec = E.IDN_ERROR <;> simp [h]

/-- an IDN error code is always accompanied by the library's message (`C15.verdict_shape`), so the message is never NULL -/
theorem msgOf_ne_null (mask : Nat) (r : Result) (ret : Int) (ec : Nat) (im : Option Int)
    (h : verdictOf mask r = .ok (ret, ec, im)) : msgOf ec im ≠ .null := by
  rw [msgOf_eq]
  by_cases h2 : ec = E.IDN_ERROR
  · rw [if_pos h2, (C15.verdict_shape _ _ _ _ _ h).2.2.2.2.1 h2]; nofun
  · rw [if_neg h2]; nofun

/-- one `eav_is_email` + `eav_errstr` on the tool's object: the observation is `outcomeOf` for the address, the
object keeps its settings, the ledger invariant is kept -/
theorem step_isEmail_spec (be : Backend) (b : Build) (c : Conv) (hc : c.rc = 0 → c.out.isSome = true)
    (st : State) (e : EavT) (m : Mode) (a : List Nat)
    (hinv : C13.Inv be st) (hobj : st.obj = some e) (hm : C01.modeOfObj e = some m) :
    ∃ ret ec im r st', C13.outcomeOf b c m e.tldCheck e.allowTld a = .ok (ret, ec, im, r) ∧
      step be b st (.isEmail a c) = .ok (st', .verdict ret ec (msgOf ec im) r) ∧
      st'.obj = some { e with result := some r, errcode := ec, idnmsg := im } ∧ C13.Inv be st' ∧
      msgOf ec im ≠ .null := by
  obtain ⟨r, ret, ec, im, hr, hv, _, hstep⟩ := C06.step_isEmail_total be b c hc st e m a hinv hobj hm
  exact ⟨ret, ec, im, r, C13.afterCall st e r ec im, by simp only [C13.outcomeOf, hr, hv], msgOf_eq ec im ▸ hstep, rfl,
    C13.inv_afterCall hinv hobj .., msgOf_ne_null _ _ _ _ _ hv⟩

/-- **the loop of `parse_file` prints `specLines`** — from any state of the tool's object (whatever was
validated before), for any lines -/
theorem parseLines_spec (be : Backend) (b : Build) (convOf : List Nat → Conv) (hc : C06.ConvContract convOf) (t : Texts) :
    ∀ (lines : List (List Nat)) (st : State) (e : EavT) (o : CliOut),
      C13.Inv be st → st.obj = some e → ToolObj e →
      ∃ st' e' o', parseLines be b convOf t st lines o = .ok (st', o') ∧ specLines b t convOf lines o = .ok o' ∧
        C13.Inv be st' ∧ st'.obj = some e' ∧ ToolObj e' ∧ e'.initialized = e.initialized := by
  intro lines
  induction lines with
  | nil => intro st e o hinv hobj ht; exact ⟨st, e, o, rfl, rfl, hinv, hobj, ht, rfl⟩
  | cons a rest ih =>
    intro st e o hinv hobj ht
    obtain ⟨ret, ec, im, r, st1, hout, hstep, hobj1, hinv1, hnn⟩ :=
      step_isEmail_spec be b (convOf a) (hc a) st e .m6531 a hinv hobj ht.1
    rw [ht.2.1, ht.2.2] at hout
    have hblk : ∃ blk, lineBlock t a ret (msgOf ec im) = .ok blk := by
      unfold lineBlock
      split
      · exact ⟨_, rfl⟩
      · cases hm : msgOf ec im with
        | null => exact absurd hm hnn
        | table i => exact ⟨_, rfl⟩
        | idn rc => exact ⟨_, rfl⟩
    obtain ⟨blk, hblk⟩ := hblk
    -- `ToolObj` reads none of the three fields the call stored, so `ht` serves for the new object
    obtain ⟨st', e', o', h1, h2, h3, h4, h5, h6⟩ :=
      ih st1 _ { stdout := o.stdout ++ blk, passed := o.passed + (if ret != 0 then 1 else 0),
                 failed := o.failed + (if ret != 0 then 0 else 1) } hinv1 hobj1 ht
    refine ⟨st', e', o', ?_, ?_, h3, h4, h5, h6⟩
    · simp only [parseLines, hstep, hblk]
      exact h1
    · simp only [specLines, specBlock, hout, hblk]
      exact h2

/-- the blocks are in one-to-one correspondence with the lines: the output is extended by exactly one block per
line, each the `specBlock` of its own line, and the counters grow by the number of lines -/
theorem specLines_blocks (b : Build) (t : Texts) (convOf : List Nat → Conv) :
    ∀ (lines : List (List Nat)) (o o' : CliOut), specLines b t convOf lines o = .ok o' →
      ∃ blks : List (List Nat × Bool), blks.length = lines.length ∧
        (∀ i (h : i < lines.length) (h' : i < blks.length), specBlock b t convOf lines[i] = .ok blks[i]) ∧
        o'.stdout = o.stdout ++ (blks.map (·.1)).flatten ∧
        o'.passed = o.passed + (blks.filter (·.2)).length ∧
        o'.failed = o.failed + (blks.filter (fun x => !x.2)).length ∧
        o'.passed + o'.failed = o.passed + o.failed + lines.length := by
  intro lines
  induction lines with
  | nil =>
    intro o o' h
    cases h
    refine ⟨[], rfl, ?_, by simp, by simp, by simp, by simp⟩
    intro i h
    cases h
  | cons a rest ih =>
    intro o o' h
    simp only [specLines] at h
    cases hb : specBlock b t convOf a with
    | error f => simp [hb] at h
    | ok v =>
      obtain ⟨blk, pass⟩ := v
      simp only [hb] at h
      obtain ⟨blks, hl, hall, hs, hp, hf, hsum⟩ := ih _ _ h
      refine ⟨(blk, pass) :: blks, by simp [hl], ?_, ?_, ?_, ?_, ?_⟩
      · intro i hi hi'
        cases i with
        | zero => simpa using hb
        | succ j => simpa using hall j (by simpa using hi) (by simpa using hi')
      · simp [hs, List.append_assoc]
      · cases pass <;> simp [hp] <;> omega
      · cases pass <;> simp [hf] <;> omega
      · simp only [List.length_cons]
        cases pass <;> simp at hsum ⊢ <;> omega

theorem parseFiles_spec (be : Backend) (b : Build) (convOf : List Nat → Conv) (hc : C06.ConvContract convOf) (t : Texts) :
    ∀ (files : List (Option (List Nat))) (st : State) (e : EavT),
      C13.Inv be st → st.obj = some e → ToolObj e →
      ∃ st' e' outs, parseFiles be b convOf t st files = .ok (st', outs) ∧
        specFiles b t convOf files = .ok outs ∧
        C13.Inv be st' ∧ st'.obj = some e' ∧ ToolObj e' ∧ e'.initialized = e.initialized := by
  intro files
  induction files with
  | nil => intro st e hinv hobj ht; exact ⟨st, e, [], rfl, rfl, hinv, hobj, ht, rfl⟩
  | cons f fs ih =>
    intro st e hinv hobj ht
    have h1 : ∃ st1 e1 o, parseFile be b convOf t st f = .ok (st1, o) ∧ specFile b t convOf f = .ok o ∧
        C13.Inv be st1 ∧ st1.obj = some e1 ∧ ToolObj e1 ∧ e1.initialized = e.initialized := by
      cases f with
      | none => exact ⟨st, e, {}, rfl, rfl, hinv, hobj, ht, rfl⟩
      | some file => exact parseLines_spec be b convOf hc t (cliLines file) st e {} hinv hobj ht
    obtain ⟨st1, e1, o, hp, hs, hinv1, hobj1, ht1, hi1⟩ := h1
    obtain ⟨st2, e2, outs, hp2, hs2, hinv2, hobj2, ht2, hi2⟩ := ih st1 e1 hinv1 hobj1 ht1
    refine ⟨st2, e2, o :: outs, ?_, ?_, hinv2, hobj2, ht2, hi2.trans hi1⟩
    · simp only [parseFiles, hp, hp2]
    · simp only [specFiles, hs, hs2]

/-- `eav_init; eav_setup` gives the tool's object, in every back end -/
theorem tool_setup (be : Backend) :
    ∃ st e, eavSetup be (eavInit {}) = .ok (st, 0) ∧ C13.Inv be st ∧ st.obj = some e ∧ ToolObj e := by
  obtain ⟨st, h, ho, _, _, hi⟩ := C13.eavSetup_spec (be := be) (C13.inv_init be {} ⟨rfl, rfl⟩) rfl
  exact ⟨st, _, h, hi, ho, by decide, rfl, rfl⟩

/-- **the tool, whole**: for every argument list (each file arbitrary bytes or unreadable) and every IDN library
honouring its contract, `main` returns normally; with at least one argument the exit code is 0, every allocation
has been released, and the output for each file — processed from the last argument to the first — is `specFile`
of that file alone -/
theorem cliMain_files (be : Backend) (b : Build) (convOf : List Nat → Conv) (hc : C06.ConvContract convOf) (t : Texts)
    (args : List (Option (List Nat))) (hargs : args ≠ []) :
    ∃ run, cliMain be b convOf t args = .ok run ∧ run.exit = 0 ∧ C13.Released run.final ∧
      specFiles b t convOf args.reverse = .ok run.files := by
  obtain ⟨st, e, hsetup, hinv, hobj, ht⟩ := tool_setup be
  obtain ⟨st', e', outs, hp, hs, hinv', hobj', _, _⟩ := parseFiles_spec be b convOf hc t args.reverse st e hinv hobj ht
  obtain ⟨st'', hfree, hrel⟩ := C13.free_releases be st' e' hinv' hobj'
  refine ⟨{ exit := 0, files := outs, final := st'' }, ?_, rfl, hrel.1, hs⟩
  unfold cliMain
  simp only [List.isEmpty_eq_false_iff.mpr hargs, Bool.false_eq_true, if_false, hsetup, hp, hfree]
  rfl

/-- no fault on any input: corollary for the reader who only wants "terminates normally" -/
theorem cliMain_ok (be : Backend) (b : Build) (convOf : List Nat → Conv) (hc : C06.ConvContract convOf) (t : Texts)
    (args : List (Option (List Nat))) : C06.IsOk (cliMain be b convOf t args) := by
  by_cases h : args = []
  · subst h; exact ⟨_, rfl⟩
  · obtain ⟨run, hr, _⟩ := cliMain_files be b convOf hc t args h
    exact ⟨run, hr⟩

/-- a record yields no verdict iff its text starts with `#` -/
theorem trimLine_none_iff (rec : List Nat) : trimLine rec = none ↔ (recText rec).head? = some 35 := by
  rw [trimLine_eq]
  fun_cases trimText (recText rec) <;> simp_all

/-- the number of verdicts of a file = the number of its `getline` records that are not comments -/
theorem verdict_count (b : Build) (t : Texts) (convOf : List Nat → Conv) (file : List Nat) (o : CliOut)
    (h : specFile b t convOf (some file) = .ok o) :
    o.passed + o.failed = ((getlines file).filter (fun r => (recText r).head? != some 35)).length := by
  obtain ⟨blks, _, _, _, _, _, hsum⟩ := specLines_blocks b t convOf (cliLines file) {} o h
  rw [hsum, cliLines, List.length_filterMap_eq_countP, ← List.countP_eq_length_filter]
  show 0 + 0 + _ = _
  rw [Nat.zero_add]
  exact List.countP_congr fun r _ => by rw [bne_iff_ne, ne_eq, ← trimLine_none_iff, Option.isSome_iff_ne_none]

private def demoTexts : Texts := { errors := fun i => [48 + i], strerr := fun _ => [63] }
private def demoConv : List Nat → Conv := fun _ => ⟨0, some [98, 46, 99, 111, 109]⟩   -- "b.com"

example : C06.ConvContract demoConv := fun _ _ => rfl

/-- the theorem at a concrete argument list (`# c\na@b.com\n\n`, an unreadable file, a file without final
newline): its only premises are the converter's contract and a non-empty argument list.  (The concrete outputs of the
model for such files are compared with the real tool in the correspondence stream `cli-main`.) -/
example := cliMain_files .idn2 {} demoConv (fun _ _ => rfl) demoTexts
  [some [35, 32, 99, 10, 97, 64, 98, 46, 99, 111, 109, 10, 10], none, some [97, 64, 98, 46, 99, 111, 109]] (by simp)

/-- a comment record and a non-comment record -/
example : trimLine [35, 32, 99, 10] = none ∧ (recText [35, 32, 99, 10]).head? = some 35 := by decide
example : trimLine [32, 35, 10] = some [35] := by decide

end Eav.Props.C20
