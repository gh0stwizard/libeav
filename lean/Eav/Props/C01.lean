import Eav.Model
import Eav.Lemmas.Email
/-!
# C01 — the address decision: split at the last '@', local part 1–64 octets, both halves valid

`isEmail` is the model of `is_{822,5321,5322}_email` / `is_6531_email` with the macros of
`include/eav/private_email.h`; the per-part validators (`localOf`, `isAsciiDomain`, `isUtf8Domain`,
`checkIp`) are the library's public functions, characterised by C02–C05.
-/
namespace Eav.Props.C01
open Eav

/-- `strrchr`: the split is at the LAST occurrence -/
theorem splitLast_iff (c : Nat) : ∀ (s l d : List Nat), splitLast c s = some (l, d) ↔ (s = l ++ c :: d ∧ c ∉ d) :=
  Eav.splitLast_eq_some_iff c

/-- the domain half as the selected mode judges it, TLD checking off:
a bracketed literal through `check_ip`, otherwise a host name (through the IDN library in mode 6531) -/
def domainAccepted (b : Build) (conv : List Nat → Conv) (m : Mode) (d : List Nat) : Prop :=
  if d.head? = some 91 then ∃ v4 v6 lit, checkIp d = .ok (0, v4, v6, lit)
  else match m with
    | .m6531 => ∃ rc irc, isUtf8Domain b conv d false = .ok (rc, irc) ∧ 0 ≤ rc
    | _ => isAsciiDomain b.underscore d [0] = .ok 0

/-- accepted with TLD checking off: the call returns a record with `rc = 0` -/
def accepted (b : Build) (conv : List Nat → Conv) (m : Mode) (s : List Nat) : Prop :=
  ∃ r, isEmail b conv m s false = .ok r ∧ r.rc = 0

theorem domainAccepted_literal (b : Build) (conv : List Nat → Conv) (m : Mode) {d : List Nat} (hb : d.head? = some 91) :
    domainAccepted b conv m d ↔ ∃ v4 v6 lit, checkIp d = .ok (0, v4, v6, lit) := by
  simp only [domainAccepted, if_pos hb]

theorem domainAccepted_ascii (b : Build) (conv : List Nat → Conv) {m : Mode} {d : List Nat} (hb : d.head? ≠ some 91)
    (hm : m ≠ .m6531) : domainAccepted b conv m d ↔ isAsciiDomain b.underscore d [0] = .ok 0 := by
  cases m <;> first | exact absurd rfl hm | simp only [domainAccepted, if_neg hb]

theorem domainAccepted_6531 (b : Build) (conv : List Nat → Conv) {d : List Nat} (hb : d.head? ≠ some 91) :
    domainAccepted b conv .m6531 d ↔ ∃ rc irc, isUtf8Domain b conv d false = .ok (rc, irc) ∧ 0 ≤ rc := by
  simp only [domainAccepted, if_neg hb]

theorem localOf_nil_ne (b : Build) (m : Mode) : localOf b m [] ≠ 0 := by
  rw [localOf_eq, List.isEmpty_nil, if_pos rfl]; decide

/-- with TLD checking off the result code is never a TLD class: `0` = accepted, negative = the failing validator's code -/
theorem rc_nonpos_off (b : Build) (conv : List Nat → Conv) (m : Mode) (s : List Nat) (r : Result)
    (h : isEmail b conv m s false = .ok r) : r.rc ≤ 0 := by
  rcases isEmail_rc h with h | ⟨a, h⟩
  · exact h.2
  · rw [checkTld_off] at h; injection h with h; omega

/-- **C01, the decision**: with TLD checking off an address is accepted exactly when it is `L@D` with no
'@' in `D`, `L` of 1 to 64 octets and valid for the mode, `D` valid for the mode -/
theorem email_iff (b : Build) (conv : List Nat → Conv) (m : Mode) (s : List Nat) :
    accepted b conv m s ↔
      ∃ L D, s = L ++ 64 :: D ∧ 64 ∉ D ∧ 1 ≤ L.length ∧ L.length ≤ 64 ∧ localOf b m L = 0 ∧ D ≠ [] ∧
        domainAccepted b conv m D := by
  constructor
  · rintro ⟨r, h, hrc⟩
    rcases isEmail_record h with ⟨e, _, he, rfl⟩ | ⟨L, D, hs, hD, hne, hlen, hl, hdom⟩
    · exact absurd hrc (by simp only; omega)
    · refine ⟨L, D, hs, hD, List.length_pos_iff.mpr fun e => localOf_nil_ne b m (e ▸ hl), hlen, hl, hne, ?_⟩
      rcases hdom with ⟨hb, rc, irc, _, ⟨hm, _, hd, _⟩ | ⟨rfl, hge, hu⟩⟩ | ⟨hb, v4, v6, lit, hc, _⟩
      · exact (domainAccepted_ascii b conv hb hm).mpr hd
      · exact (domainAccepted_6531 b conv hb).mpr ⟨rc, irc, hu, hge⟩
      · exact (domainAccepted_literal b conv m hb).mpr ⟨v4, v6, lit, hc⟩
  · rintro ⟨L, D, rfl, hD, _, hlen, hl, hne, hdom⟩
    unfold accepted
    rw [isEmail_at b conv m false L hD, if_neg hne, if_neg (Nat.not_lt.mpr hlen), if_neg (not_not_intro hl)]
    by_cases hb : D.head? = some 91
    · obtain ⟨v4, v6, lit, hc⟩ := (domainAccepted_literal b conv m hb).mp hdom
      exact ⟨_, by rw [if_neg (not_not_intro hb)]; exact literalPart_of_checkIp b L hc, rfl⟩
    · rw [if_pos hb]
      by_cases hm : m = .m6531
      · subst hm
        obtain ⟨rc, irc, hu, hge⟩ := (domainAccepted_6531 b conv hb).mp hdom
        -- a class would need TLD checking
        obtain rfl : rc = 0 := by
          rcases isUtf8Domain_rc hu with h | h | ⟨a, h⟩
          · rw [h] at hge; exact absurd hge (by decide)
          · omega
          · exact (Except.ok.inj h).symm
        exact ⟨okResult b 0 irc false false true L D, by rw [hostPart_6531, hu]; rfl, rfl⟩
      · have hd := (domainAccepted_ascii b conv hb hm).mp hdom
        exact ⟨okResult b 0 0 false false true L D, by rw [hostPart_ascii b conv hm, hd]; rfl, rfl⟩

/-- **the local part is judged first and on its own**: an address whose local part (1–64 octets, or empty) is invalid for the mode is
refused with the local part's own code whatever follows the last '@' — a host name, an address literal, garbage -/
theorem invalid_local_any_domain (b : Build) (conv : List Nat → Conv) (m : Mode) (l d : List Nat) (tld : Bool)
    (hl : localOf b m l ≠ 0) (hlen : l.length ≤ Lim.VALID_LPART_LEN) (hd : d ≠ []) (hat : 64 ∉ d) :
    isEmail b conv m (l ++ 64 :: d) tld = .ok { rc := localOf b m l } := by
  rw [isEmail_at b conv m tld l hat, if_neg hd, if_neg (Nat.not_lt.mpr hlen), if_pos hl]

/-- and conversely: once the local part is valid, the record is the domain branch's — `hostPart` for a host name, `literalPart` after `[` -/
theorem valid_local_domain_decides (b : Build) (conv : List Nat → Conv) (m : Mode) (l d : List Nat) (tld : Bool)
    (hl : localOf b m l = 0) (hlen : l.length ≤ Lim.VALID_LPART_LEN) (hd : d ≠ []) (hat : 64 ∉ d) :
    isEmail b conv m (l ++ 64 :: d) tld = (if d.head? != some 91 then hostPart b conv m l d tld else literalPart b l d) := by
  rw [isEmail_at b conv m tld l hat, if_neg hd, if_neg (Nat.not_lt.mpr hlen), if_neg (not_not_intro hl)]
  simp only [bne_iff_ne]

/-- the literal branch does not look at the mode: the same local-part verdict in front of `[…]` gives the same record in every mode -/
theorem literal_branch_mode_free (b : Build) (conv : List Nat → Conv) (m m' : Mode) (l d : List Nat) (tld : Bool)
    (hl : localOf b m l = 0) (hl' : localOf b m' l = 0) (hlen : l.length ≤ Lim.VALID_LPART_LEN) (hat : 64 ∉ d) (hb : d.head? = some 91) :
    isEmail b conv m (l ++ 64 :: d) tld = isEmail b conv m' (l ++ 64 :: d) tld := by
  have hd : d ≠ [] := by intro h; subst h; simp at hb
  rw [valid_local_domain_decides b conv m l d tld hl hlen hd hat, valid_local_domain_decides b conv m' l d tld hl' hlen hd hat]
  simp [hb]

/-- `invalid_local_any_domain` at an ill-formed UTF-8 local part in front of a literal -/
example : isEmail {} (fun _ => { rc := 0, out := none }) .m6531 ([195, 40] ++ 64 :: [91, 49, 57, 50, 46, 48, 46, 50, 46, 49, 93]) false
            = .ok { rc := localOf {} .m6531 [195, 40] } ∧ localOf {} .m6531 [195, 40] ≠ 0 := by decide +kernel

/-- the empty string, a missing '@', an empty local part and an empty domain are always rejected
(whatever the mode, the build, the IDN library, with TLD checking on or off) -/
theorem always_rejected (b : Build) (conv : List Nat → Conv) (m : Mode) (s : List Nat) (tld : Bool)
    (h : s = [] ∨ 64 ∉ s ∨ s.head? = some 64 ∧ 64 ∉ s.tail ∨ s.getLast? = some 64) :
    ∃ r, isEmail b conv m s tld = .ok r ∧ r.rc < 0 := by
  rcases h with rfl | h | ⟨hh, ht⟩ | h
  · exact ⟨_, rfl, by decide⟩
  · by_cases hs : s = []
    · subst hs; exact ⟨_, rfl, by decide⟩
    · exact ⟨_, isEmail_noAt b conv m tld hs h, by decide⟩
  · -- empty local part: the only '@' is the first byte
    cases s with
    | nil => simp at hh
    | cons x xs =>
      obtain rfl : x = 64 := by simpa using hh
      by_cases hx : xs = []
      · subst hx; exact ⟨_, rfl, by decide⟩
      · have := localOf_nonpos b m []
        have hl := localOf_nil_ne b m
        exact ⟨_, invalid_local_any_domain b conv m [] xs tld hl (Nat.zero_le _) hx ht, by simp only; omega⟩
  · exact ⟨_, (isEmail_ok_iff b conv m tld).mpr (.inr (.inl ⟨.inr h, rfl⟩)), by decide⟩

/-! ### the mode chosen before `eav_setup` is the mode whose rules are applied -/

def rfcNum : Mode → Int
  | .m822 => 0 | .m5321 => 1 | .m5322 => 2 | .m6531 => 3

/-- the callback `eav_is_email` will call -/
def modeOfObj (e : EavT) : Option Mode :=
  match selectedMode e with
  | .ok m => some m
  | .error _ => none

theorem modeOfObj_eq_some {e : EavT} {m : Mode} : modeOfObj e = some m ↔ selectedMode e = .ok m := by
  unfold modeOfObj
  cases selectedMode e <;> simp

/-- after `eav_init; rfc = m0; eav_setup; rfc = m; eav_setup`: both calls returned 0, the callback of mode `m`
is the one selected, no result is held yet -/
def setupOk (be : Backend) (m0 m : Mode) : Bool :=
  match run be {} {} [.init, .setRfc (rfcNum m0), .setup, .setRfc (rfcNum m), .setup] with
  | .ok (st, outs) =>
    outs == [.unit, .unit, .rc 0, .unit, .rc 0] &&
      (match st.obj with
       | some e => modeOfObj e == some m && e.result.isNone && e.rfc == rfcNum m
       | none => false)
  | .error _ => false

/-- `eav_setup` returns 0 and selects mode `m`'s callback — in every back end, and whatever mode had been
confirmed before (the model's `eav_setup` is tied to the compiled one by `GenTie.setup_eq`) -/
theorem setup_selects_mode (be : Backend) (m0 m : Mode) : setupOk be m0 m = true := by
  cases be <;> cases m <;> cases m0 <;> decide

/-- `eav_is_email` validates with the selected mode's function and the current `tld_check`, then applies the policy -/
theorem eavIsEmail_spec (b : Build) (conv : List Nat → Conv) (st : State) (e : EavT) (m : Mode) (a : List Nat)
    (hobj : st.obj = some e) (hm : modeOfObj e = some m) (hres : e.result = none) :
    eavIsEmail b conv st a =
      (match isEmail b conv m a e.tldCheck with
       | .error f => .error f
       | .ok r =>
         match verdictOf e.allowTld r with
         | .error f => .error f
         | .ok (ret, ec, msg) =>
           .ok ({ st with liveResults := st.liveResults + 1,
                          obj := some { e with result := some r, errcode := ec, idnmsg := msg } }, ret)) := by
  unfold eavIsEmail
  simp only [hobj, hres, Option.isSome_none, Bool.false_and, Bool.false_eq_true, if_false, modeOfObj_eq_some.mp hm, Nat.add_zero]
  cases isEmail b conv m a e.tldCheck with
  | error f => rfl
  | ok r =>
    cases verdictOf e.allowTld r with
    | error f => rfl
    | ok p => rfl

example : accepted {} (fun _ => ⟨0, none⟩) .m5321 [97, 64, 98, 46, 99] :=                                  -- a@b.c
  ⟨{ rc := 0, isDomain := true }, by decide, rfl⟩
example : accepted {} (fun _ => ⟨0, none⟩) .m822 [97, 64, 91, 49, 46, 50, 46, 51, 46, 52, 93] :=           -- a@[1.2.3.4]
  ⟨{ rc := 0, isIpv4 := true }, by decide, rfl⟩
example : ¬ accepted {} (fun _ => ⟨0, none⟩) .m5321 [97, 64, 98, 64] := by                               -- a@b@
  rintro ⟨r, h, hr⟩
  have : isEmail {} (fun _ => ⟨0, none⟩) .m5321 [97, 64, 98, 64] false = .ok { rc := -16 } := by decide
  rw [this] at h; cases h; simp at hr

end Eav.Props.C01
