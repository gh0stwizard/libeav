import Eav.Model
import Eav.Props.C07
import Eav.Props.C09
import Eav.Lemmas.Api
import Eav.Lemmas.Email
/-!
# C07, seen from `check_tld` and from `eav_is_email`

`C07.lean` ties `is_tld` to the shipped CSV.  Here the same statement is carried up to the callers: `check_tld` classifies a
valid, non-reserved, multi-label host name by its WHOLE LAST label (and says "not fully qualified" when there is one label),
and `eav_is_email` leaves the same result record behind whatever the caller's `allow_tld` is — the mask decides whether a
class is acceptable, it never decides the class and never switches the table off.
-/
namespace Eav.Props.C07
open Eav Eav.Spec

theorem getLast_after_dot (pre last : List Nat) (hne : last ≠ []) : (pre ++ 46 :: last).getLast? = last.getLast? := by
  rw [List.append_cons, List.getLast?_append]
  cases h : last.getLast? with
  | none => exact absurd (List.getLast?_eq_none_iff.mp h) hne
  | some v => rfl

/-- **classified by the whole last label, exactly as `data/punycode.csv` dictates**: a listed label gets its listed class, an
unlisted one `-EEAV_TLD_INVALID`; nothing in front of the last dot takes part -/
theorem classified_by_last_label (us : Bool) (pre last : List Nat) (h : HostOk us (pre ++ 46 :: last)) (hnd : 46 ∉ last) (hne : last ≠ [])
    (hres : reserved (pre ++ 46 :: last) = false) :
    checkTld (pre ++ 46 :: last) true =
      .ok (match Spec.csvClass Gen.csvPuny last with | some c => (c : Int) | none => -(E.TLD_INVALID : Int)) := by
  have hnr : (pre ++ 46 :: last).getLast? ≠ some 46 := by
    rw [getLast_after_dot pre last hne]
    exact fun hh => hnd (List.mem_of_getLast? hh)
  rw [checkTld_last (hres ▸ C09.special_iff_host us _ h hnr) hnd, isTld_eq_csv last hne]
  cases Spec.csvClass Gen.csvPuny last <;> rfl

/-- the part in front of the last dot is irrelevant: two valid non-reserved names with the same last label get the same class -/
theorem class_ignores_prefix (us : Bool) (p q last : List Nat) (hp : HostOk us (p ++ 46 :: last)) (hq : HostOk us (q ++ 46 :: last))
    (hnd : 46 ∉ last) (hne : last ≠ []) (rp : reserved (p ++ 46 :: last) = false) (rq : reserved (q ++ 46 :: last) = false) :
    checkTld (p ++ 46 :: last) true = checkTld (q ++ 46 :: last) true := by
  rw [classified_by_last_label us p last hp hnd hne rp, classified_by_last_label us q last hq hnd hne rq]

/-- a single non-reserved label is not fully qualified -/
theorem single_label_not_fqdn (us : Bool) (d : List Nat) (h : HostOk us d) (hnd : 46 ∉ d) (hres : reserved d = false) :
    checkTld d true = .ok (-(E.DOMAIN_NOT_FQDN : Int)) :=
  checkTld_single (hres ▸ C09.special_iff_host us _ h fun hh => hnd (List.mem_of_getLast? hh)) hnd

/-- the record a call leaves in the object -/
def recordOf (r : Except Fault (State × Int)) : Except Fault (Option Result) :=
  match r with
  | .error f => .error f
  | .ok (st, _) => .ok (st.obj.bind (·.result))

/-- the record `eav_is_email` leaves behind, written without the policy: `allow_tld` does not occur in it (the policy
faults on a code above the nine classes whatever the mask) -/
theorem recordOf_eavIsEmail (b : Build) (conv : List Nat → Conv) {st : State} {e : EavT} (email : List Nat)
    (h : st.obj = some e) :
    recordOf (eavIsEmail b conv st email) =
      if e.result.isSome && st.liveResults == 0 then .error .badfree
      else match selectedMode e with
        | .error f => .error f
        | .ok m =>
          match isEmail b conv m email e.tldCheck with
          | .error f => .error f
          | .ok r => if 9 < r.rc then .error .abort else .ok (some r) := by
  unfold eavIsEmail
  simp only [h]
  by_cases hd : (e.result.isSome && st.liveResults == 0) = true
  · rw [if_pos hd, if_pos hd]; rfl
  · rw [if_neg hd, if_neg hd]
    cases selectedMode e with
    | error f => rfl
    | ok m =>
      simp only
      cases isEmail b conv m email e.tldCheck with
      | error f => rfl
      | ok r =>
        simp only
        cases hv : verdictOf e.allowTld r with
        | error f => obtain ⟨h9, rfl⟩ := (verdictOf_error_iff _ _ _).mp hv; rw [if_pos h9]; rfl
        | ok v =>
          have h9 : ¬ 9 < r.rc := fun h9 => by rw [(verdictOf_error_iff _ r .abort).mpr ⟨h9, rfl⟩] at hv; cases hv
          rw [if_neg h9]; rfl

/-- **the caller's `allow_tld` never reaches the classification**: with the object otherwise unchanged, every mask (all nine class
bits, more than all, none) leaves the same result record — class, flags — behind -/
theorem api_record_any_mask (b : Build) (conv : List Nat → Conv) (st : State) (e : EavT) (k : Nat) (email : List Nat)
    (h : st.obj = some e) :
    recordOf (eavIsEmail b conv { st with obj := some { e with allowTld := k } } email) = recordOf (eavIsEmail b conv st email) := by
  rw [recordOf_eavIsEmail b conv email h, recordOf_eavIsEmail b conv (e := { e with allowTld := k }) email rfl]
  rfl

/-- non-vacuity: `mail.iana.org` → generic (3), `x.comm` → invalid TLD, `localhostx` → not fully qualified; and `HostOk`, "not reserved"
hold of them -/
example : checkTld [109, 97, 105, 108, 46, 105, 97, 110, 97, 46, 111, 114, 103] true = .ok 3 ∧
          checkTld [120, 46, 99, 111, 109, 109] true = .ok (-26) ∧
          checkTld [108, 111, 99, 97, 108, 104, 111, 115, 116, 120] true = .ok (-23) ∧
          specHost false [120, 46, 99, 111, 109, 109] = true ∧ reserved [120, 46, 99, 111, 109, 109] = false := by
  unfold checkTld isTld Gen.tldTable; simp only [↓List.append_assoc]; decide +kernel

end Eav.Props.C07
