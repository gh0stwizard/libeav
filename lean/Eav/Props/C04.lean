import Eav.Model
import Eav.Lemmas.Domain
import Eav.Lemmas.Email
/-!
# C04 — host-name domains: LDH labels, 63 / 253, optional root dot, not all-numeric

`isAsciiDomain` is the model of `src/is_ascii_domain.c`; `Spec.HostOk` is the property's wording.
The statements are made under the contract of the library: the domain is NUL-free and stored
NUL-terminated (`after = [0]`).  (With another byte at `*end` the C code would accept a label ending
in a hyphen — `a-` followed by `x` — which is why the contract appears in the statement; the
correspondence check drives that case too.)
-/
namespace Eav.Props.C04
open Eav Eav.Spec

/-! ### `splitDots` / `joinDots` are inverse on dot-free labels -/

theorem joinDots_cons_cons (c : Nat) (l : List Nat) (ls : List (List Nat)) :
    joinDots ((c :: l) :: ls) = c :: joinDots (l :: ls) := by
  cases ls <;> simp [joinDots]

theorem joinDots_cons (l : List Nat) (ls : List (List Nat)) (h : ls ≠ []) :
    joinDots (l :: ls) = l ++ 46 :: joinDots ls := by
  cases ls with
  | nil => exact absurd rfl h
  | cons x xs => rfl

theorem join_splitDots (s : List Nat) : joinDots (splitDots s) = s := by
  induction s with
  | nil => simp [splitDots, joinDots]
  | cons c cs ih =>
    by_cases h : c = 46
    · subst h
      rw [splitDots_dot, joinDots_cons _ _ (splitDots_ne_nil cs), ih]; simp
    · obtain ⟨l, ls, h1, h2⟩ := splitDots_cons_ne (cs := cs) h
      rw [h2, joinDots_cons_cons, ← h1, ih]

theorem splitDots_join : ∀ (labels : List (List Nat)), labels ≠ [] → (∀ l ∈ labels, 46 ∉ l) →
    splitDots (joinDots labels) = labels
  | [], h, _ => absurd rfl h
  | [l], _, h => by simp [joinDots, splitDots_nodot (h l (by simp))]
  | l :: l' :: ls, _, h => by
    rw [joinDots_cons l (l' :: ls) (by simp), splitDots_append_dot, splitDots_nodot (h l (by simp)),
      splitDots_join (l' :: ls) (by simp) (fun x hx => h x (by simp [hx]))]
    rfl

theorem okLabel_nodot {us : Bool} {l : List Nat} (h : okLabel us l = true) : 46 ∉ l := by
  simp only [okLabel, Bool.and_eq_true, List.all_eq_true] at h
  intro hm
  have := h.1.1.2 46 hm
  simp [letDig, isAlnum, isDigit, isAlpha, isUpper, isLower] at this

theorem okLabel_ne_nil {us : Bool} {l : List Nat} (h : okLabel us l = true) : l ≠ [] := by
  intro e; subst e; simp [okLabel] at h

theorem allNumeric_root (x : List Nat) : allNumeric (x ++ [46]) = allNumeric x := by
  simp [allNumeric, isDigit]

/-! ### the executable form of the specification is the declarative one -/

/-- the three tests of `hostNoRoot`, as propositions -/
theorem hostNoRoot_eq_true (us : Bool) (x : List Nat) :
    hostNoRoot us x = true ↔ x.length ≤ 253 ∧ (∀ l ∈ splitDots x, okLabel us l = true) ∧ allNumeric x = false := by
  simp only [hostNoRoot, Bool.and_eq_true, decide_eq_true_eq, List.all_eq_true, Bool.not_eq_true', and_assoc]

theorem hostNoRoot_iff (us : Bool) (x : List Nat) :
    hostNoRoot us x = true ↔
      ∃ labels : List (List Nat), labels ≠ [] ∧ (∀ l ∈ labels, okLabel us l = true) ∧ x = joinDots labels ∧
        x.length ≤ 253 ∧ allNumeric x = false := by
  rw [hostNoRoot_eq_true]
  constructor
  · rintro ⟨hlen, hall, hnum⟩
    exact ⟨splitDots x, splitDots_ne_nil x, hall, (join_splitDots x).symm, hlen, hnum⟩
  · rintro ⟨labels, hne, hall, rfl, hlen, hnum⟩
    rw [splitDots_join labels hne (fun l hl => okLabel_nodot (hall l hl))]
    exact ⟨hlen, hall, hnum⟩

/-- a host name without root dot is not empty and does not end in a dot: either would be an empty label -/
theorem hostNoRoot_last {us : Bool} {x : List Nat} (h : hostNoRoot us x = true) : x ≠ [] ∧ x.getLast? ≠ some 46 := by
  have hnil : [] ∉ splitDots x := fun hm => okLabel_ne_nil (((hostNoRoot_eq_true us x).mp h).2.1 [] hm) rfl
  exact ⟨fun e => hnil (by subst e; exact List.mem_singleton_self []), fun hr => hnil (nil_mem_splitDots_of_root hr)⟩

/-- `HostOk` with the labels put together: a host name without root dot, or one followed by the root dot -/
theorem hostOk_iff (us : Bool) (s : List Nat) :
    HostOk us s ↔ hostNoRoot us s = true ∨ ∃ x, s = x ++ [46] ∧ hostNoRoot us x = true := by
  simp only [hostNoRoot_iff]
  constructor
  · rintro ⟨labels, root, hne, rfl | rfl, hall, rfl, hlen, hnum⟩
    · exact .inl ⟨labels, hne, hall, by simp, by simpa using hlen, hnum⟩
    · exact .inr ⟨_, rfl, labels, hne, hall, rfl, hlen, allNumeric_root _ ▸ hnum⟩
  · rintro (⟨labels, hne, hall, rfl, hlen, hnum⟩ | ⟨_, rfl, labels, hne, hall, rfl, hlen, hnum⟩)
    · exact ⟨labels, [], hne, .inl rfl, hall, by simp, hlen, by simpa using hnum⟩
    · exact ⟨labels, [46], hne, .inr rfl, hall, rfl, hlen, (allNumeric_root _).trans hnum⟩

theorem specHost_iff (us : Bool) (s : List Nat) : specHost us s = true ↔ HostOk us s := by
  rw [hostOk_iff]
  unfold specHost
  by_cases hroot : 2 ≤ s.length ∧ s.getLast? = some 46
  · -- `s = x.`: not a name without root dot, and `x` is the only candidate
    rw [if_pos (by simpa using hroot)]
    obtain ⟨x, rfl⟩ := List.getLast?_eq_some_iff.mp hroot.2
    rw [List.dropLast_concat]
    refine ⟨fun h => .inr ⟨x, rfl, h⟩, ?_⟩
    rintro (h | ⟨y, e, h⟩)
    · exact absurd List.getLast?_concat (hostNoRoot_last h).2
    · exact List.append_cancel_right e ▸ h
  · -- no root dot to strip: a name `x.` would have `x` empty
    rw [if_neg (by simpa using hroot)]
    refine ⟨.inl, ?_⟩
    rintro (h | ⟨x, rfl, h⟩)
    · exact h
    · have := List.length_pos_iff.mpr (hostNoRoot_last h).1
      exact absurd ⟨by simp; omega, List.getLast?_concat⟩ hroot

/-! ### the model of the C function decides the executable specification -/

/-- from the start of a name of at most 253 bytes the loop decides the executable specification -/
theorem domLoop_iff_hostNoRoot (us : Bool) (x after : List Nat) (hn : NulFree x)
    (ha : after.head? = some 0 ∨ after.head? = some 46) (hlen : x.length ≤ 253) :
    domLoop us x after 0 false = .ok 0 ↔ hostNoRoot us x = true := by
  rw [domLoop_ok us x after 0 false hn ha (by omega), hostNoRoot_eq_true, restOk_zero, List.all_eq_true]
  simp only [Bool.false_eq_true, false_or, hlen, true_and]

theorem isAsciiDomain_iff_spec (us : Bool) (s : List Nat) (hn : NulFree s) :
    isAsciiDomain us s [0] = .ok 0 ↔ specHost us s = true := by
  have hlen : ∀ x, hostNoRoot us x = true → x.length ≤ 253 := fun x h => ((hostNoRoot_eq_true us x).mp h).1
  unfold specHost
  rcases isAsciiDomain_cases us s [0] with ⟨rfl, h⟩ | ⟨hlong, h⟩ | ⟨h2, h254, hroot, h⟩ | ⟨-, h253, hroot, h⟩ <;> rw [h]
  · cases us <;> decide
  · -- too long, with or without the root dot
    refine ⟨fun h => (by cases h), fun h => ?_⟩
    by_cases hr : (decide (s.length ≥ 2) && s.getLast? == some 46) = true
    · rw [if_pos hr] at h
      have := hlen _ h
      simp only [Bool.and_eq_true, decide_eq_true_eq, beq_iff_eq] at hr
      rw [List.length_dropLast] at this
      rcases hlong with hl | ⟨_, hl⟩
      · omega
      · exact absurd hr.2 hl
    · rw [if_neg hr] at h
      have := hlen _ h
      omega
  · rw [if_pos (by simpa using ⟨h2, hroot⟩)]
    exact domLoop_iff_hostNoRoot us _ _ (fun c hc => hn c (List.dropLast_subset s hc)) (Or.inr rfl)
      (by rw [List.length_dropLast]; omega)
  · rw [if_neg (by simpa using hroot)]
    exact domLoop_iff_hostNoRoot us _ _ hn (Or.inl rfl) h253

theorem isAsciiDomain_nonpos (us : Bool) (s after : List Nat) (r : Int) (h : isAsciiDomain us s after = .ok r) : r ≤ 0 := by
  rcases isAsciiDomain_ok_cases h with h | h | h <;> omega

/-- **C04**: in the ASCII modes a non-bracketed, NUL-free, NUL-terminated domain is accepted by
`is_ascii_domain` exactly when it is a host name in the sense of the property -/
theorem host_iff (us : Bool) (s : List Nat) (hn : NulFree s) :
    isAsciiDomain us s [0] = .ok 0 ↔ HostOk us s :=
  (isAsciiDomain_iff_spec us s hn).trans (specHost_iff us s)

/-- mode 6531: whatever the IDN library returns, an accepted domain has an A-label form that is a host name -/
theorem host6531_sound (b : Build) (conv : List Nat → Conv) (d : List Nat) (tld : Bool) (rc irc : Int)
    (h : isUtf8Domain b conv d tld = .ok (rc, irc)) (hacc : 0 ≤ rc) (hnf : ∀ a, (conv d).out = some a → NulFree a) :
    ∃ a, (conv d).rc = 0 ∧ (conv d).out = some a ∧ HostOk b.underscore a := by
  rcases isUtf8Domain_ok_cases h with ⟨_, rfl, _⟩ | ⟨_, _, rfl, _⟩ | ⟨_, hc, _, a, syn, ha, ht⟩
  · exact absurd hacc (by decide)
  · exact absurd hacc (by decide)
  · refine ⟨a, hc, ha, ?_⟩
    rcases ht with ⟨_, hz, hd⟩ | ⟨_, hd, _⟩
    · have := isAsciiDomain_nonpos _ _ _ _ hd; omega
    · exact (host_iff _ a (hnf a ha)).mp hd

example : isAsciiDomain false [97, 45, 98, 46, 101, 120, 97, 109, 112, 108, 101, 46, 99, 111, 109] [0] = .ok 0 := by decide
example : isAsciiDomain false [101, 120, 97, 109, 112, 108, 101, 46, 99, 111, 109, 46] [0] = .ok 0 := by decide
example : isAsciiDomain false [97, 46, 46] [0] = .ok (-19) := by decide
example : isAsciiDomain false [49, 46, 50] [0] = .ok (-22) := by decide
example : isAsciiDomain false [97, 95, 98, 46, 99] [0] = .ok (-20) ∧ isAsciiDomain true [97, 95, 98, 46, 99] [0] = .ok 0 := by decide
example : HostOk false [97, 46, 98] := ⟨[[97], [98]], [], by simp, Or.inl rfl, by decide, by decide, by decide, by decide⟩
/-- the contract matters: with another byte at `*end` a trailing hyphen is not seen -/
example : isAsciiDomain false [97, 45] [120, 0] = .ok 0 ∧ isAsciiDomain false [97, 45] [0] = .ok (-18) := by decide

end Eav.Props.C04
