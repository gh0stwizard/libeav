import Eav.Model
import Eav.Props.C09
import Eav.Props.C13
import Eav.Props.C16
import Eav.Props.C15
/-!
# C06 — what a proof can carry of "memory safety, no abort, no leak, termination"

In the model every read the C code performs outside `[start, end)` is explicit: `cp[1]`, `cp[2]`, `*cp` after
`cp++`, `strspn` / `strchr` that ignore `end` all read `s ++ after` and a read past the last byte of `after` is
`Fault.oob`; copies into `label[64]` are `Fault.overflow` when they do not fit; a NULL callback is `Fault.nullcb`;
`abort ()` is `Fault.abort`; freeing a block that is not live is `Fault.badfree`; the object before `eav_init` is
`Fault.uninit`.  The theorems below say that none of these is reachable for NUL-terminated input and legal use.
Termination: every loop of the model is a structural recursion on the input (or a well-founded one on its
length), accepted by Lean without `partial`, so each loop runs at most `length` iterations.
What the compiled C really does is observed by the sanitizer / valgrind half of the check.
-/
namespace Eav.Props.C06
open Eav

def IsOk {α : Type} (x : Except Fault α) : Prop := ∃ v, x = .ok v

theorem IsOk.ok {α : Type} (v : α) : IsOk (Except.ok v : Except Fault α) := ⟨v, rfl⟩

theorem IsOk.ne_error {α : Type} {x : Except Fault α} (h : IsOk x) (e : Fault) : x ≠ .error e := by
  obtain ⟨v, rfl⟩ := h; nofun

/-! ### the per-part validators read nothing past the terminator -/

theorem peek_ne_error {cs after : List Nat} (h : after ≠ []) (e : Fault) : peek cs after ≠ .error e := by
  rcases peek_ok_or cs after with ⟨nx, hp⟩ | ⟨ha, _⟩
  · rw [hp]; nofun
  · exact absurd ha h

/-- the loop's one fault is the look-ahead behind a hyphen with nothing stored behind `end` (`domLoop_res`) -/
theorem domLoop_ok (us : Bool) (cs : List Nat) : ∀ (after : List Nat) (ll : Nat) (nn : Bool),
    after ≠ [] → IsOk (domLoop us cs after ll nn) :=
  fun after ll nn hne => (domLoop_res us cs after ll nn).elim (fun ⟨r, h, _⟩ => ⟨r, h⟩) (fun ⟨h, _⟩ => absurd h hne)

/-- `is_ascii_domain` on `[start,end)` followed by at least one more byte (the terminator) -/
theorem isAsciiDomain_ok (us : Bool) (s after : List Nat) (h : after ≠ []) : IsOk (isAsciiDomain us s after) :=
  (isAsciiDomain_res us s after).elim (fun ⟨r, hr, _⟩ => ⟨r, hr⟩) (fun ⟨ha, _⟩ => absurd ha h)

/-- a byte at which every look-ahead of `is_ipv4` / `is_ipv6` stops (`strspn (start, "0.")`, `strspn (cp, hex digits)`):
NUL, `]`, … -/
def Stops (l : List Nat) : Prop := ∃ c ∈ l, isHex c = false ∧ c ≠ 46

theorem stops_of_nul {l : List Nat} (h : 0 ∈ l) : Stops l := ⟨0, h, by decide, by decide⟩

theorem Stops.mono {l m : List Nat} (h : Stops l) (hsub : ∀ c ∈ l, c ∈ m) : Stops m :=
  let ⟨c, hc, hh⟩ := h; ⟨c, hsub c hc, hh⟩

theorem byteAfterZeroDots_ok : ∀ (whole : List Nat), Stops whole → IsOk (byteAfterZeroDots whole)
  | c :: cs, ⟨d, hd, hx, h46⟩ => by
    unfold byteAfterZeroDots
    split
    · next hc =>
      refine byteAfterZeroDots_ok cs ⟨d, (List.mem_cons.mp hd).resolve_left ?_, hx, h46⟩
      rintro rfl
      rcases (by simpa using hc : d = 48 ∨ d = 46) with rfl | rfl
      · exact absurd hx (by decide)
      · exact h46 rfl
    · exact .ok _

theorem ipv4Loop_ok (whole : List Nat) (hw : Stops whole) (cs : List Nat) (ib : Bool) (bv bc : Nat) :
    IsOk (ipv4Loop whole cs ib bv bc) := by
  fun_induction ipv4Loop whole cs ib bv bc
  all_goals try exact .ok _
  all_goals try assumption
  -- left: the two branches behind `strspn (start, "0.")`
  all_goals
    obtain ⟨b, hb⟩ := byteAfterZeroDots_ok whole hw
    simp only [hb, bind, Except.bind]
    split
    · exact .ok _
    · assumption

/-- `is_ipv4 (start, end)` inside a NUL-terminated string -/
theorem isIpv4_ok (s after : List Nat) (h : 0 ∈ after) : IsOk (isIpv4 s after) :=
  ipv4Loop_ok _ ((stops_of_nul h).mono fun _ hc => List.mem_append_right s hc) _ _ _ _

theorem spanHex_ne_none (l : List Nat) (h : Stops l) : spanHex l ≠ none := by
  obtain ⟨d, hd, hx, h46⟩ := h
  fun_induction spanHex l with
  | case1 => cases hd
  | case2 c cs hc ih =>
    have := ih ((List.mem_cons.mp hd).resolve_left (by rintro rfl; rw [hx] at hc; cases hc))
    simpa using this
  | case3 => nofun

/-- The loop reads outside `cs` in three places (`cp[1]`, `*cp` after `cp++`, `strspn`) and calls `is_ipv4` once;
a stopping byte in `after` (the terminator, or the `]` of a literal) ends each of them. -/
theorem ipv6Loop_ok (cs after : List Nat) (f nf : Nat) (run : List Nat) (skip : Nat) (h0 : Stops after) :
    IsOk (ipv6Loop cs after f nf run skip) := by
  have hp : ∀ cs e, peek cs after ≠ .error e := fun _ =>
    peek_ne_error (let ⟨_, hc, _⟩ := h0; List.ne_nil_of_mem hc)
  -- the cases are numbered in the order of the branches of `ipv6Loop`; the four that read outside `cs`:
  fun_induction ipv6Loop cs after f nf run skip
  case case6 =>                                   -- `.`: `is_ipv4 (cp - len, end)`
    exact ipv4Loop_ok _ (h0.mono fun _ hc => by simp [hc]) ..
  case case7 e h =>                               -- `:` at the very start: `cp[1]`
    split at h
    · generalize hq : peek _ _ = x at h
      cases x with
      | error => exact absurd hq (hp _ _)
      | ok => cases h
    · cases h
  case case10 h => exact absurd h (hp _ _)        -- `:`: `*cp` after `cp++`
  case case14 h =>                                -- hex digit: `strspn`
    exact absurd h (spanHex_ne_none _ (h0.mono fun _ hc => by simp [hc]))
  all_goals first | exact .ok _ | (rename_i ih; exact ih h0 hp)

/-- `is_ipv6 (start, end)` inside a NUL-terminated string -/
theorem isIpv6_ok (s after : List Nat) (h : 0 ∈ after) : IsOk (isIpv6 s after) :=
  ipv6Loop_ok _ _ _ _ _ _ (stops_of_nul h)

theorem ipVerdict_ok {x : Except Fault Bool} (h : IsOk x) (a b : Bool) (inner : List Nat) : IsOk (ipVerdict x a b inner) := by
  obtain ⟨v, rfl⟩ := h
  cases v <;> exact .ok _

theorem checkIp_ok (d : List Nat) : IsOk (checkIp d) := by
  have h6 := fun s => isIpv6_ok s [93, 0] (by decide)
  fun_cases checkIp d
  case case4 => exact ipVerdict_ok (h6 _) ..                    -- tagged
  case case5 => exact ipVerdict_ok (h6 _) ..                    -- with a colon
  case case6 => exact ipVerdict_ok (isIpv4_ok _ [93, 0] (by decide)) ..
  all_goals exact .ok _

/-! ### `is_special_domain`: the label walk never runs off the string, the copies stay inside `label[64]` -/

/-- **`is_special_domain` never faults**, whatever the (NUL-terminated) domain: labels of any number and length,
empty labels, root dot included -/
theorem isSpecialDomain_ok (s : List Nat) : IsOk (isSpecialDomain s) := by
  -- C09 says what the function returns on every input, with and without a root dot
  by_cases hr : s.getLast? = some 46
  · rw [← dropLast_append_of_getLast? s 46 hr]
    by_cases hx : countDots s.dropLast = 0
    · exact ⟨_, C09.special_of_root_single _ hx⟩
    · exact ⟨_, C09.special_of_root _ hx⟩
  · exact ⟨_, C09.special_of_no_root s hr⟩

theorem checkTld_ok (d : List Nat) (tld : Bool) : IsOk (checkTld d tld) := by
  fun_cases checkTld d tld
  case case2 e h => exact absurd h ((isSpecialDomain_ok d).ne_error e)
  all_goals exact .ok _

/-- what is assumed of the IDN library: when it reports success it has produced an output string -/
def ConvContract (conv : List Nat → Conv) : Prop := ∀ d, (conv d).rc = 0 → (conv d).out.isSome = true

theorem isUtf8Domain_ok (b : Build) (conv : List Nat → Conv) (hc : ConvContract conv) (d : List Nat) (tld : Bool) :
    IsOk (isUtf8Domain b conv d tld) := by
  fun_cases isUtf8Domain b conv d tld
  case case3 c hrc hout =>                                      -- success without an output buffer: excluded by the contract
    have := hc d (by simpa using hrc); rw [hout] at this; cases this
  case case4 e h => exact absurd h ((isAsciiDomain_ok b.underscore _ [0] (by simp)).ne_error e)
  case case6 e h => exact absurd h ((checkTld_ok _ tld).ne_error e)
  all_goals exact .ok _

theorem hostPart_ok (b : Build) (conv : List Nat → Conv) (hc : ConvContract conv) (m : Mode) (l d : List Nat) (tld : Bool) :
    IsOk (hostPart b conv m l d tld) := by
  fun_cases hostPart b conv m l d tld
  case case1 e h => exact absurd h ((isUtf8Domain_ok b conv hc d tld).ne_error e)
  case case4 e h _ => exact absurd h ((isAsciiDomain_ok b.underscore d [0] (by simp)).ne_error e)
  case case5 e h _ => exact absurd h ((checkTld_ok d tld).ne_error e)
  all_goals exact .ok _

theorem literalPart_ok (b : Build) (l d : List Nat) : IsOk (literalPart b l d) := by
  fun_cases literalPart b l d
  case case1 e h => exact absurd h ((checkIp_ok d).ne_error e)
  all_goals exact .ok _

/-- **`is_*_email` never faults**: for every byte string, mode, build, `tld_check` and every answer of an IDN
library honouring its contract, the call returns a result record -/
theorem isEmail_ok (b : Build) (conv : List Nat → Conv) (hc : ConvContract conv) (m : Mode) (s : List Nat) (tld : Bool) :
    IsOk (isEmail b conv m s tld) := by
  fun_cases isEmail b conv m s tld
  case case6 => exact hostPart_ok b conv hc ..
  case case7 => exact literalPart_ok ..
  all_goals exact .ok _

/-! ### the claims are not vacuous: the model does fault when the contract is broken, and the contracts are satisfiable -/

/-- without a terminator behind the string the hyphen look-ahead of `is_ascii_domain` runs off the buffer -/
example : isAsciiDomain false [97, 45] [] = .error .oob := by decide
/-- … and the `strspn` of `is_ipv4` too (`0.0` with nothing behind it) -/
example : isIpv4 [48, 46, 48] [] = .error .oob := by decide
/-- a converter that reports success without handing out a buffer makes `is_utf8_domain` call `strlen (NULL)` -/
example : isUtf8Domain {} (fun _ => ⟨0, none⟩) [97] false = .error .oob := by decide
/-- the two kinds of converter the library meets satisfy the contract -/
example : ConvContract (fun x => ⟨0, some (lowerAll x)⟩) := fun _ _ => rfl
example : ConvContract (fun _ => ⟨-304, none⟩) := by
  intro d h; simp at h

/-- **one validation, whole**: on an object satisfying the ledger invariant with a confirmed mode, `eav_is_email` followed by
`eav_errstr` returns; what the caller observes is the callback's record `r`, the policy's verdict on it and a message that is an entry
of `errors[]` or the IDN library's own, and the new record is the one live record -/
theorem step_isEmail_total (be : Backend) (b : Build) (c : Conv) (hc : c.rc = 0 → c.out.isSome = true) (st : State) (e : EavT) (m : Mode)
    (a : List Nat) (hinv : C13.Inv be st) (hobj : st.obj = some e) (hm : C01.modeOfObj e = some m) :
    ∃ r ret ec im, isEmail b (fun _ => c) m a e.tldCheck = .ok r ∧ verdictOf e.allowTld r = .ok (ret, ec, im) ∧ ec < E.MAX ∧
      step be b st (.isEmail a c) = .ok (C13.afterCall st e r ec im,
        .verdict ret ec (if ec = E.IDN_ERROR then (match im with | some rc => .idn rc | none => .null) else .table ec) r) := by
  obtain ⟨r, hr⟩ := isEmail_ok b (fun _ => c) (fun _ => hc) m a e.tldCheck
  obtain ⟨hlo, h9, _⟩ := C16.rc_range hr
  obtain ⟨⟨ret, ec, im⟩, hv⟩ : IsOk (verdictOf e.allowTld r) := by
    cases hv : verdictOf e.allowTld r with
    | ok v => exact ⟨v, rfl⟩
    | error f => have := ((verdictOf_error_iff _ _ _).mp hv).1; omega
  have hlt : ec < E.MAX := C15.errcode_lt_max e.allowTld r ret ec im hv (by omega) h9
  have he := (C13.eavIsEmail_ok_iff hinv hobj).mpr ⟨m, r, ec, im, C01.modeOfObj_eq_some.mp hm, hr, hv, rfl⟩
  exact ⟨r, ret, ec, im, hr, hv, hlt, step_isEmail_iff.mpr ⟨ret, _, _, r, he, C13.errstr_latest _ _ rfl hlt, rfl, rfl, rfl⟩⟩

/-- **the high-level call never faults and never aborts**: on an object satisfying the ledger invariant (every
state reachable from `eav_init`, `C13.run_inv`) with a confirmed mode, `eav_is_email` followed by `eav_errstr`
returns normally — no uninitialised field, no NULL callback, no `abort ()`, no free of a dead block -/
theorem step_isEmail_ok (be : Backend) (b : Build) (c : Conv) (hc : c.rc = 0 → c.out.isSome = true) (st : State) (e : EavT) (m : Mode) (a : List Nat)
    (hinv : C13.Inv be st) (hobj : st.obj = some e) (hm : C01.modeOfObj e = some m) :
    IsOk (step be b st (.isEmail a c)) :=
  let ⟨_, _, _, _, _, _, _, h⟩ := step_isEmail_total be b c hc st e m a hinv hobj hm
  ⟨_, h⟩

end Eav.Props.C06
