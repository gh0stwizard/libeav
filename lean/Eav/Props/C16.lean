import Eav.Model
import Eav.Props.C01
import Eav.Props.C07
import Eav.Props.C08
import Eav.Lemmas.Email
/-!
# C16 — the result record is consistent with the decision and the form of the domain

Statements about the record `isEmail` returns (the model of `is_*_email`), for every input, mode,
build and IDN answer.
-/
namespace Eav.Props.C16
open Eav

def flagCount (r : Result) : Nat := (if r.isIpv4 then 1 else 0) + (if r.isIpv6 then 1 else 0) + (if r.isDomain then 1 else 0)

/-- what `check_ip` reports: never both families, a family exactly on success -/
theorem checkIp_flags (d : List Nat) (rc : Int) (v4 v6 : Bool) (lit : List Nat) (h : checkIp d = .ok (rc, v4, v6, lit)) :
    (rc = 0 → (v4 = true ∧ v6 = false) ∨ (v4 = false ∧ v6 = true)) ∧ (rc ≠ 0 → v4 = false ∧ v6 = false ∧ rc < 0) := by
  rcases checkIp_ok_cases h with ⟨rfl, h46, _⟩ | ⟨rfl, rfl, rfl, _⟩ | ⟨rfl, rfl, rfl, _⟩
  · exact ⟨fun _ => by cases v6 <;> simp [h46], fun h => absurd rfl h⟩
  · exact ⟨fun h => absurd h (by decide), fun _ => ⟨rfl, rfl, by decide⟩⟩
  · exact ⟨fun h => absurd h (by decide), fun _ => ⟨rfl, rfl, by decide⟩⟩

/-- the class reported by the table scan is one of the nine classes, or the code EEAV_TLD_INVALID -/
theorem isTld_range (s : List Nat) : isTld s = -(E.TLD_INVALID : Int) ∨ (1 ≤ isTld s ∧ isTld s ≤ 9) :=
  (C07.isTld_cases s).imp And.left fun ⟨r, _, _, h, h1, h9⟩ => by rw [h]; omega

theorem checkTld_range (d : List Nat) (tld : Bool) (t : Int) (h : checkTld d tld = .ok t) :
    t = 0 ∨ t = -(E.DOMAIN_NOT_FQDN : Int) ∨ t = -(E.TLD_INVALID : Int) ∨ (1 ≤ t ∧ t ≤ 9) := by
  rcases checkTld_ok_cases h with ⟨_, rfl⟩ | ⟨_, _, rfl⟩ | ⟨_, _, ⟨_, rfl⟩ | ⟨p, last, _, _, rfl⟩⟩
  · exact .inl rfl
  · exact .inr (.inr (.inr (by decide)))
  · exact .inr (.inl rfl)
  · exact .inr (.inr (isTld_range last))

/-- the codes of the two domain branches, in numbers (none of them is a local-part code) -/
theorem hostPart_range {b : Build} {conv : List Nat → Conv} {m : Mode} {l d : List Nat} {tld : Bool} {r : Result}
    (h : hostPart b conv m l d tld = .ok r) : r.rc = -2 ∨ -26 ≤ r.rc ∧ r.rc ≤ -16 ∨ 0 ≤ r.rc ∧ r.rc ≤ 9 := by
  have e2 : ((E.IDN_ERROR : Nat) : Int) = 2 := rfl
  have e23 : ((E.DOMAIN_NOT_FQDN : Nat) : Int) = 23 := rfl
  have e26 : ((E.TLD_INVALID : Nat) : Int) = 26 := rfl
  rcases hostPart_rc h with h | h | ⟨a, h⟩
  · omega
  · omega
  · rcases checkTld_range _ _ _ h with h | h | h | h <;> omega

theorem literalPart_range {b : Build} {l d : List Nat} {r : Result} (h : literalPart b l d = .ok r) :
    r.rc = 0 ∨ r.rc = -24 ∨ r.rc = -25 := by
  rcases literalPart_rc h with ⟨h, _⟩ | ⟨_, h | ⟨h, _⟩⟩
  · exact .inl h
  · exact .inr (.inl h)
  · exact .inr (.inr h)

/-- **every result code** is 0, a TLD class 1..9, or an error code down to `-EEAV_TLD_INVALID`; a class only with TLD checking on -/
theorem rc_range {b : Build} {conv : List Nat → Conv} {m : Mode} {s : List Nat} {tld : Bool} {r : Result}
    (h : isEmail b conv m s tld = .ok r) : -26 ≤ r.rc ∧ r.rc ≤ 9 ∧ (tld = false → r.rc ≤ 0) := by
  have e23 : ((E.DOMAIN_NOT_FQDN : Nat) : Int) = 23 := rfl
  have e26 : ((E.TLD_INVALID : Nat) : Int) = 26 := rfl
  have : -26 ≤ r.rc ∧ r.rc ≤ 9 := by
    rcases isEmail_rc h with h | ⟨a, h⟩
    · omega
    · rcases checkTld_range _ _ _ h with h | h | h | h <;> omega
  exact ⟨this.1, this.2, fun ht => by subst ht; exact C01.rc_nonpos_off b conv m s r h⟩

/-- **the shape of the result code**: 0, a TLD class 1..9, or a negative error code; a class only with TLD checking on -/
theorem rc_shape (b : Build) (conv : List Nat → Conv) (m : Mode) (s : List Nat) (tld : Bool) (r : Result)
    (h : isEmail b conv m s tld = .ok r) : r.rc ≤ 9 ∧ (tld = false → r.rc ≤ 0) :=
  (rc_range h).2

/-- hence `abort ()` in `eav_is_email` is unreachable: the policy switch always finds its arm -/
theorem no_abort (b : Build) (conv : List Nat → Conv) (m : Mode) (s : List Nat) (tld : Bool) (k : Nat) (r : Result)
    (h : isEmail b conv m s tld = .ok r) : verdictOf k r ≠ .error .abort := by
  intro ha
  have := C08.abort_only_outside_classes k r ha
  have := (rc_shape b conv m s tld r h).1
  omega

/-- **the flags**: at most one is ever set; on a non-negative result exactly one, and it is `is_domain` for a host
name and one of the two families for a bracketed literal; with a negative result a flag can only be the `is_domain`
of a syntactically valid host name whose TLD test failed (ASCII modes) -/
theorem flags (b : Build) (conv : List Nat → Conv) (m : Mode) (s : List Nat) (tld : Bool) (r : Result)
    (h : isEmail b conv m s tld = .ok r) :
    flagCount r ≤ 1 ∧ (0 ≤ r.rc → flagCount r = 1) ∧
      (r.rc < 0 → flagCount r = 0 ∨ (r.isDomain = true ∧ (r.rc = -(E.DOMAIN_NOT_FQDN : Int) ∨ r.rc = -(E.TLD_INVALID : Int)))) ∧
      (∀ L D, s = L ++ 64 :: D → 64 ∉ D → 0 ≤ r.rc → (r.isDomain = true ↔ D.head? ≠ some 91)) := by
  rcases isEmail_record h with ⟨e, irc, he, rfl⟩ | ⟨L, D, rfl, hD, _, _, _, ⟨hb, rc, irc, rfl, hh⟩ | ⟨hb, v4, v6, lit, hc, rfl⟩⟩
  · exact ⟨by simp [flagCount], fun h => absurd h (by simp only; omega), fun _ => .inl (by simp [flagCount]),
      fun _ _ _ _ h => absurd h (by simp only; omega)⟩
  · refine ⟨by simp [flagCount, okResult], fun _ => by simp [flagCount, okResult], fun hneg => .inr ⟨rfl, ?_⟩, fun L' D' e hD' _ => ?_⟩
    · -- a negative code in the host record is `check_tld`'s (ASCII modes only)
      simp only [okResult] at hneg ⊢
      rcases hh with ⟨_, _, _, ht⟩ | ⟨_, hge, _⟩
      · rcases checkTld_range _ _ _ ht with h | h | h | h
        · omega
        · exact .inl h
        · exact .inr h
        · omega
      · omega
    · rw [← (last_split_unique e hD hD').2]; simp [okResult, hb]
  · have hf := (checkIp_flags D 0 v4 v6 lit hc).1 rfl
    refine ⟨?_, fun _ => ?_, fun hneg => absurd hneg (by simp [okResult]), fun L' D' e hD' _ => ?_⟩
    · rcases hf with ⟨rfl, rfl⟩ | ⟨rfl, rfl⟩ <;> simp [flagCount, okResult]
    · rcases hf with ⟨rfl, rfl⟩ | ⟨rfl, rfl⟩ <;> simp [flagCount, okResult]
    · rw [← (last_split_unique e hD hD').2]; simp [okResult, hb]

/-- `EAV_EXTRA`: `lpart` and `domain` reproduce the two halves of an accepted address byte for byte (a literal
without its brackets), are NULL otherwise, and are always NULL in a build without the option -/
theorem extra_strings (b : Build) (conv : List Nat → Conv) (m : Mode) (s : List Nat) (tld : Bool) (r : Result)
    (h : isEmail b conv m s tld = .ok r) :
    (b.extra = false → r.lpart = none ∧ r.domain = none) ∧
    (r.isIpv4 = false → r.isIpv6 = false → r.isDomain = false → r.lpart = none ∧ r.domain = none) ∧
    (b.extra = true → flagCount r = 1 → ∃ L D, s = L ++ 64 :: D ∧ 64 ∉ D ∧ r.lpart = some L ∧
        ((r.isDomain = true ∧ r.domain = some D) ∨ (r.isDomain = false ∧ r.domain = some (D.drop 1).dropLast))) := by
  rcases isEmail_record h with ⟨e, irc, he, rfl⟩ | ⟨L, D, hs, hD, _, _, _, ⟨hb, rc, irc, rfl, hh⟩ | ⟨hb, v4, v6, lit, hc, rfl⟩⟩
  · exact ⟨fun _ => ⟨rfl, rfl⟩, fun _ _ _ => ⟨rfl, rfl⟩, fun _ h => by simp [flagCount] at h⟩
  · refine ⟨fun he => by simp [okResult, he], fun _ _ h => by simp [okResult] at h, fun he _ => ?_⟩
    exact ⟨L, D, hs, hD, by simp [okResult, he], .inl ⟨rfl, by simp [okResult, he]⟩⟩
  · have hf := (checkIp_flags D 0 v4 v6 lit hc).1 rfl
    -- the literal handed out by `check_ip` is the domain without its brackets
    have hlit : lit = (D.drop 1).dropLast := (checkIp_ok_zero hc).2.2.2
    refine ⟨fun he => by simp [okResult, he], fun h4 h6 _ => ?_, fun he _ => ?_⟩
    · rcases hf with ⟨rfl, rfl⟩ | ⟨rfl, rfl⟩ <;> simp [okResult] at h4 h6
    · exact ⟨L, D, hs, hD, by simp [okResult, he], .inr ⟨rfl, by simp [okResult, he, hlit]⟩⟩

example : isEmail { extra := true } (fun _ => ⟨0, none⟩) .m5321 [97, 64, 91, 49, 46, 50, 46, 51, 46, 52, 93] true =
    .ok { rc := 0, isIpv4 := true, lpart := some [97], domain := some [49, 46, 50, 46, 51, 46, 52] } := by decide
example : isEmail {} (fun _ => ⟨0, none⟩) .m5321 [97, 64, 98, 46, 122, 122] true = .ok { rc := -26, isDomain := true } := by
  -- re-associated first: a miss walks the whole table (see the note at the head of C11)
  unfold isEmail hostPart checkTld isTld Gen.tldTable
  simp only [↓List.append_assoc]
  decide +kernel

end Eav.Props.C16
